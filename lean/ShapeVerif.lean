import ShapeVerif.Model.Shape
import ShapeVerif.Model.Subset
import ShapeVerif.Model.Merge
import ShapeVerif.Model.Json
import ShapeVerif.Model.Infer
import ShapeVerif.Model.Display
import ShapeVerif.Ref.Sem
import ShapeVerif.Ref.Rfc8259
import ShapeVerif.Ref.Witness
import ShapeVerif.Props.C01
import ShapeVerif.Props.C02
import ShapeVerif.Props.C06
import ShapeVerif.Props.C08
import ShapeVerif.Props.C10
import ShapeVerif.Props.C17
import ShapeVerif.Props.C03
import ShapeVerif.Props.C09
import ShapeVerif.Props.C11
import ShapeVerif.Props.C12
import ShapeVerif.Props.C04
import ShapeVerif.Props.C05
import ShapeVerif.Props.C07
import ShapeVerif.Model.Derive
import ShapeVerif.Props.C13
import ShapeVerif.Props.C14
import ShapeVerif.Props.C15
import ShapeVerif.Props.C16
import ShapeVerif.Props.TextLevel
import ShapeVerif.Props.Subtypes
import ShapeVerif.Props.C12Text
import ShapeVerif.Lemmas.RfcSound
import ShapeVerif.Lemmas.RfcComplete
