/-
The array and object queries of `value/subtypes.rs` are sound for the meaning of shapes: when one answers
`true`, every document the queried part admits is of the JSON kind the query names (or `null`, only
when the query names an optional type or `Null`); the tuple queries are compared with the code only.
Not one of the 17 listed properties; `isOneOfT` is proved to be the seven helpers `is_subset` uses.
-/
import ShapeVerif.Model.Subtypes
import ShapeVerif.Ref.Sem
import ShapeVerif.Lemmas.Admits
namespace ShapeVerif
open Shape

/-- the JSON kind of a document matches a shape constructor (`OneOf` promises nothing) -/
def docOfKind : Kind → Doc → Bool
  | .null, d => d.isNull
  | .number, .num _ => true
  | .string, .str _ => true
  | .boolean, .bool _ => true
  | .array, .arr _ => true
  | .tuple, .arr _ => true
  | .object, .obj _ => true
  | .oneOf, _ => true
  | _, _ => false

/-- a shape with constructor `k` and flag `o` admits only documents of kind `k`, and `null` only if `o` -/
theorem hasKind_sound {k : Kind} {o : Bool} {v : Shape} (h : hasKind k o v = true) {d : Doc}
    (ha : admits v d = true) : docOfKind k d = true ∨ (d = .null ∧ o = true) := by
  simp only [hasKind, Bool.and_eq_true, beq_iff_eq, Bool.or_eq_true] at h
  obtain ⟨hk, hf⟩ := h
  cases v <;> simp only [kindOf] at hk <;> subst hk
  case null => left; simpa [docOfKind, admits] using ha
  case oneOf => left; rfl
  all_goals
    simp only [optFlagOf, reduceCtorEq, false_or] at hf
    subst hf
    cases d <;> first | contradiction | exact Or.inl rfl | exact Or.inr ⟨rfl, ha⟩

theorem isArrayOf_sound {k : Kind} {o : Bool} {s : Shape} (h : isArrayOf k o s = true) {xs : List Doc}
    (ha : admits s (.arr xs) = true) : ∀ x ∈ xs, docOfKind k x = true ∨ (x = .null ∧ o = true) := by
  cases s with
  | array t ao =>
    rcases admits_array_cases ha with ⟨e, _⟩ | ⟨ys, e, hys⟩ <;> cases e
    exact fun x hx => hasKind_sound h (List.all_eq_true.mp hys x hx)
  | _ => cases h

theorem isObjectOf_sound {k : Kind} {o : Bool} {key : String} {c : Members} {uo : Bool}
    (hs : sortedKeys c = true) (h : isObjectOf k o key (.object c uo) = true) {ms : List (String × Doc)}
    (ha : admits (.object c uo) (.obj ms) = true) :
    ∀ v, (key, v) ∈ ms → docOfKind k v = true ∨ (v = .null ∧ o = true) := by
  simp only [isObjectOf, List.any_eq_true, Bool.and_eq_true, beq_iff_eq] at h
  obtain ⟨kv, hkv, hkey, hkind⟩ := h
  obtain ⟨k', sh⟩ := kv
  simp only at hkey hkind
  subst hkey
  rcases admits_object_cases ha with ⟨e, _⟩ | ⟨ms', e, hms, _⟩
  · cases e
  · cases e
    intro v hv
    have := List.all_eq_true.mp hms (k', v) hv
    simp only at this
    rw [admitsKey_of_mem hs hkv] at this
    exact hasKind_sound hkind this

/-! the generic `IsOneOf<T>` model is, instance by instance, the helper `is_subset` calls -/

theorem isOneOfT_null (s : Shape) : isOneOfT .null false s = isOneOfNull s := by
  cases s <;> rfl

theorem isOneOfT_bool (s : Shape) : isOneOfT .boolean false s = isOneOfBool s := by
  cases s with
  | oneOf vs uo =>
    refine List.any_congr rfl fun v => ?_
    cases v with
    | bool o | number o | string o => cases o <;> rfl
    | _ => rfl
  | _ => rfl

theorem isOneOfT_number (s : Shape) : isOneOfT .number false s = isOneOfNumber s := by
  cases s with
  | oneOf vs uo =>
    refine List.any_congr rfl fun v => ?_
    cases v with
    | bool o | number o | string o => cases o <;> rfl
    | _ => rfl
  | _ => rfl

theorem isOneOfT_string (s : Shape) : isOneOfT .string false s = isOneOfString s := by
  cases s with
  | oneOf vs uo =>
    refine List.any_congr rfl fun v => ?_
    cases v with
    | bool o | number o | string o => cases o <;> rfl
    | _ => rfl
  | _ => rfl

theorem isOneOfT_optBool (s : Shape) : isOneOfT .boolean true s = isOneOfOptBool s := by
  cases s with
  | oneOf vs uo => exact congrArg (· && _) (List.any_congr rfl fun v => by cases v <;> rfl)
  | _ => rfl

theorem isOneOfT_optNumber (s : Shape) : isOneOfT .number true s = isOneOfOptNumber s := by
  cases s with
  | oneOf vs uo => exact congrArg (· && _) (List.any_congr rfl fun v => by cases v <;> rfl)
  | _ => rfl

theorem isOneOfT_optString (s : Shape) : isOneOfT .string true s = isOneOfOptString s := by
  cases s with
  | oneOf vs uo => exact congrArg (· && _) (List.any_congr rfl fun v => by cases v <;> rfl)
  | _ => rfl

end ShapeVerif
