/-
C17 — Single-document inference is compositional and exact: the shape of a document is built from
the shapes of its parts exactly as the documentation says.
-/
import ShapeVerif.Lemmas.InferSpec
namespace ShapeVerif
open Shape

theorem infer_null : inferDoc .null = .ok .null := rfl
theorem infer_bool (b : Bool) : inferDoc (.bool b) = .ok (.bool false) := rfl
theorem infer_number (n : String) : inferDoc (.num n) = .ok (.number false) := rfl
theorem infer_string (s : String) : inferDoc (.str s) = .ok (.string false) := rfl

/-- **arrays.** With `es` the shapes of the elements (in order):
* no element: `Option<Array<Null>>` (the documented choice for `[]`);
* all element shapes equal: `Array` of that shape;
* differently shaped, not all objects: `Tuple` of the element shapes in order;
* differently shaped objects: `Array` of one `Object` whose lookup is `specLookup` — a key present
  in every element carries its shape, a key present in only some carries the optional form. -/
theorem infer_array (xs : List Doc) (es : List Shape) (h : inferDocList xs = .ok es) :
    (es = [] → inferDoc (.arr xs) = .ok (.array .null true)) ∧
    (∀ first rest, es = first :: rest → allEqual es = true →
      inferDoc (.arr xs) = .ok (.array first false)) ∧
    (es ≠ [] → allEqual es = false → es.all isObject = false →
      inferDoc (.arr xs) = .ok (.tuple es false)) ∧
    (es ≠ [] → allEqual es = false → es.all isObject = true →
      ∃ M, inferDoc (.arr xs) = .ok (.array (.object M false) false) ∧ sortedKeys M = true ∧
        ∀ k, mapGet k M = specLookup k es) := by
  obtain ⟨hwf, hno, _⟩ := inferDocList_wf_noOneOfValues_flagOff h
  rw [show inferDoc (.arr xs) = classifyArray es by simp [inferDoc, h]]
  refine ⟨fun e => e ▸ rfl, fun _ _ e hae => ?_, fun _ => classifyArray_of_mixed, fun hne hae hobj => ?_⟩
  · subst e
    exact classifyArray_of_allEqual hae
  · cases es with
    | nil => exact absurd rfl hne
    | cons e rest =>
      rw [List.all_cons, Bool.and_eq_true] at hobj
      obtain ⟨c, o, rfl⟩ := isObject_cases hobj.1
      have hc := wfList_iff.1 hwf _ List.mem_cons_self
      simp only [Shape.wf, Bool.and_eq_true] at hc
      exact ⟨_, classifyArray_of_objects hae hobj.2, sortedKeys_mergeObjectElements rest hc.1,
        fun k => mapGet_mergeObjectElements k c o rest hobj.2 hno⟩

theorem infer_array_elements (xs : List Doc) (es : List Shape) (h : inferDocList xs = .ok es) :
    Pointwise (fun x e => inferDoc x = .ok e) xs es := inferDocList_ok_iff_pointwise.1 h

/-- **objects.** The inferred shape of an object is a non-optional `Object` whose keys are exactly
the document's member names, each carrying the shape of its value. -/
theorem infer_object (ms : List (String × Doc)) (s : Shape) (h : inferDoc (.obj ms) = .ok s) :
    ∃ c, s = .object c false ∧ sortedKeys c = true ∧
      (∀ kv ∈ ms, ∃ sv, inferDoc kv.2 = .ok sv ∧ mapGet kv.1 c = some sv) ∧
      (∀ k sv, mapGet k c = some sv → hasMember k ms = true) :=
  inferDoc_obj_iff.1 h

/-- non-vacuity / worked example from the README: an array of two objects with different keys -/
example :
    inferDoc (.arr [.obj [("a", .str "b"), ("c", .num "123")], .obj [("a", .str "b"), ("b", .bool true)]])
      = .ok (.array (.object [("a", .string false), ("b", .bool true), ("c", .number true)] false) false) := by
  rfl

end ShapeVerif
