/-
C12, text path: besides the `parse_rule` call count (`inferDoc_cost`, Props/C12.lean) the two phases
before it are linear for every string — the lexer emits at most one token per character and the
recovering parser makes at most `4·|tokens| + 2` rule entries and loop iterations (counted by the tick
twin `ruleValueT`, which counts 0 at the cut-off: read together with `parse_never_exhausts_fuel`).
-/
import ShapeVerif.Lemmas.ParseWork
import ShapeVerif.Lemmas.LexRun
namespace ShapeVerif

theorem tokens_le_chars (cs : List Char) : (tokenize cs).tokens.length ≤ cs.length := by
  obtain ⟨ts, ds, h, e⟩ := tokenize_run cs
  rw [e]
  exact h.len

/-- tokens and parser ticks are linear in the length of the text -/
theorem text_front_end_linear (cs : List Char) :
    (tokenize cs).tokens.length ≤ cs.length ∧
    ruleValueT (2 * (tokenize cs).tokens.length + 4) (initState (tokenize cs) (utf8Len cs)) ≤ 4 * cs.length + 2 := by
  have h1 := tokens_le_chars cs
  have h2 := parse_work_linear cs
  exact ⟨h1, by omega⟩

end ShapeVerif
