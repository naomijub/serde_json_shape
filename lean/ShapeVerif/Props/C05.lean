/-
C05 — No input makes the library panic, overflow or hang; errors are faithful.
The Rust panic sites of the modelled code are explicit `Outcome.panic`s (text layer: the slices of
`source`, the `key_span.start + 1 .. end - 1` arithmetic) or explicit unreachable branches (array
classification); one is not: `parseCst.firstBad` counts a panicking `has_errors` as an error found.
`fromStr_total` discharges all of them for every string; `span_faithful` says what
an `InvalidJson` error carries. Real stack depth and wall-clock are observed, not proved.
-/
import ShapeVerif.Lemmas.InferSpec
import ShapeVerif.Lemmas.EntryPoints
import ShapeVerif.Props.C12
import ShapeVerif.Lemmas.FromStrTotal
import ShapeVerif.Lemmas.ParseFuel
import ShapeVerif.Lemmas.LexFuel
import ShapeVerif.Lemmas.ParseDepth
namespace ShapeVerif
open Shape

/-- the `elements.first().cloned().unwrap()` and `Error::Unknown` sites of the text path's array
classification are unreachable: classification never fails -/
theorem classifyArray_never_fails (es : List Shape) : ∃ s, classifyArray es = .ok s := by
  rcases classifyArray_cases es with ⟨_, h⟩ | ⟨_, _, _, _, h⟩ | ⟨_, _, _, _, _, _, h⟩ | ⟨_, _, h⟩
  all_goals exact ⟨_, h⟩

/-- what guards the value path's `unreachable!("Guaranteed to be Object by all")` and `shapes[0]` sites:
under the condition of `classifyArrayV`'s first branch the list starts with an object, under that of
its second it is not empty -/
theorem classifyArrayV_total (es : List Shape) :
    (es.length > 1 ∧ es.all isObject = true → ∃ c o rest, es = .object c o :: rest) ∧
    (!es.isEmpty && allEqual es = true → ∃ first rest, es = first :: rest) := by
  constructor
  · rintro ⟨hl, hall⟩
    cases es with
    | nil => simp at hl
    | cons e rest =>
      rw [List.all_cons, Bool.and_eq_true] at hall
      obtain ⟨c, o, rfl⟩ := isObject_cases hall.1
      exact ⟨c, o, rest, rfl⟩
  · intro h
    cases es with
    | nil => simp at h
    | cons e rest => exact ⟨e, rest, rfl⟩

/-- the repaired `reject_diagnostics` cannot panic: the fragment is taken with a checked slice -/
theorem rejectDiagnostics_no_panic (src : List Char) (diags : List Diag) :
    rejectDiagnostics src diags ≠ .panic := by
  unfold rejectDiagnostics
  split <;> simp

/-- the unchecked superset query never fails: every parse error becomes `false` -/
theorem isSuperset_never_errs (s : Shape) (src : List Char) (e : PErr) : isSuperset s src ≠ .err e := by
  unfold isSuperset
  split <;> simp

/-- work is bounded (call counts): the value path visits each node once, the text path at most once,
a subset query at most size·size (restated from C12 as the "small polynomial" part of C05) -/
theorem work_bounds (v d : Doc) (a b : Shape) :
    ticksSVal v = v.nodes ∧ ticksInferDoc d ≤ d.nodes ∧ (subsetT a b).2 ≤ a.size * b.size :=
  ⟨inferSVal_cost v, inferDoc_cost d, subset_cost a b⟩

/-- **no string makes `from_str` panic**: all slices of the source taken by `parse_cst`
(`has_errors`, error values, member names) lie on character boundaries inside the text, and member
name tokens span at least their two quotes -/
theorem fromStr_total (t : List Char) : fromStr t ≠ .panic := (fromStr_good t).1

/-- **errors are faithful**: the range of an `InvalidJson` lies inside the input on character
boundaries and the reported fragment is exactly the input at that range -/
theorem span_faithful (t : List Char) (v : String) (a b : Nat) (h : fromStr t = .err (.invalidJson v a b)) :
    ∃ p s, t = p ++ v.toList ++ s ∧ utf8Len p = a ∧ a + utf8Len v.toList = b :=
  sliceBytes_spec ((fromStr_good t).2 v a b h)

/-- `from_sources`, `is_superset`, `is_superset_checked` never panic either, on any texts -/
theorem entry_points_total (srcs : List (List Char)) (s : Shape) (t : List Char) :
    fromSources srcs ≠ .panic ∧ isSuperset s t ≠ .panic ∧ isSupersetChecked s t ≠ .panic :=
  ⟨fromSources_ne_panic srcs, mt (isSuperset_panic_iff s t).1 (fromStr_total t),
    mt (isSupersetChecked_panic_iff s t).1 (fromStr_total t)⟩

/-- an `InvalidJson` from `from_sources` is the faithful error of one of the sources -/
theorem sources_span_faithful (srcs : List (List Char)) (v : String) (a b : Nat)
    (h : fromSources srcs = .err (.invalidJson v a b)) :
    ∃ t ∈ srcs, ∃ p s, t = p ++ v.toList ++ s ∧ utf8Len p = a ∧ a + utf8Len v.toList = b := by
  rcases fromSources_cases srcs with ⟨vs, _, h'⟩ | ⟨t, ht, _, h'⟩ <;> rw [h'] at h
  · split at h <;> cases h
  · exact ⟨t, ht, span_faithful t v a b h⟩

/- non-vacuity of `span_faithful`'s hypothesis: `sliceBytes` is defined by well-founded recursion and
does not reduce in the kernel, so no closed `example` is given here; the correspondence run of every
check evaluates `fromStr` on tens of thousands of rejected texts (e.g. `"\\é"` ↦ `InvalidJson "\\é" 1..4`)
and compares value and range with the real code. -/

/-! ### no unbounded loop

The model's lexer and parser recurse on a fuel argument, the real `tokenize` loop and the `rule_*`
functions of the generated parser do not. `lexLoopO` / `rule*O` are twins that *fail* when the fuel
runs out and are otherwise identical to the model functions. For every string both twins answer —
and answer the model's result — from the fuel the model starts with: so the model's cut-off is never
what ends a run, the real loops make at most `|text|` (lexer) and `2·|tokens| + 4` (parser: nested
calls plus iterations of the two recovery loops) steps, and `fromStr_total` speaks about the
unbounded recursion. -/
theorem text_layer_terminates (cs : List Char) :
    lexLoopO cs.length cs 0 0 0 [] [] = some (tokenize cs) ∧
    ruleValueO (2 * (tokenize cs).tokens.length + 4) (initState (tokenize cs) (utf8Len cs)) =
      some (ruleValue (2 * (tokenize cs).tokens.length + 4) (initState (tokenize cs) (utf8Len cs))) :=
  ⟨tokenize_never_exhausts_fuel cs, parse_never_exhausts_fuel cs⟩

/-- in every coherent parser state `2·|remaining tokens| + 1` nested calls/iterations suffice: each one
is preceded by the consumption of a token -/
theorem parser_steps_linear (s : PState) (hc : Coh s) (fuel : Nat) (h : 2 * s.toks.length + 1 ≤ fuel) :
    ruleValueO fuel s = some (ruleValue fuel s) :=
  (twin_agrees fuel).1.some ((twin_total fuel).1 s hc h)

/-! ### no stack overflow: bounded recursion depth

The generated parser's `rule_object` / `rule_member` / `rule_array` / `rule_literal` / `rule_boolean`
each close exactly one node of the tree (`rule_value` is elided), and `parse_cst`'s `parse_rule` /
`parse_member` descend one level of that tree per call: the number of nested stack frames of either
phase is the depth of the tree (plus a constant). For **every** string that depth is at most 1 (`file`)
+ 2·256 (an open brace costs two levels, `object` and `member`) + 2 = 515; 516 is what is stated:
the lexer stops at the first token that would bring the number of open brackets above 256
(`tokenize_depth`, with or without diagnostics), and the recovering parser opens a nested node only
after consuming an opening bracket that is still open — stray closing brackets are never skipped by
the recovery loops, they end them (`rules_depth`). -/
theorem parse_tree_depth (cs : List Char) : (parse cs).root.depth ≤ 516 := by
  have hrv := (rules_depth (2 * (tokenize cs).tokens.length + 4)).1 (initState (tokenize cs) (utf8Len cs))
    (initState_coh _ _) trivial
  have hH : H (initState (tokenize cs) (utf8Len cs)).toks ≤ 256 := by
    have h1 := H_of_depthFrom (tokenize cs).tokens 0 (by decide) (by simpa [depthOk] using tokenize_depth cs)
    have h2 := H_of_yield (takeSkips_yield (tokenize cs).tokens)
    rw [(takeSkips_items _).2] at h2
    simp only [initState]
    omega
  simp only [parse, Node.depth]
  generalize ruleValue (2 * (tokenize cs).tokens.length + 4) (initState (tokenize cs) (utf8Len cs)) = rv at hrv ⊢
  have htl := parseTail_depth rv.1
  show 1 + itemsDepth ((takeSkips (tokenize cs).tokens).1 ++ rv.2 ++ (parseTail rv.1).2) ≤ 516
  rw [itemsDepth_append, itemsDepth_append, (takeSkips_items (tokenize cs).tokens).1]
  omega

theorem tree_depth_bounded (cs : List Char) :
    depthOk ((tokenize cs).tokens.map (·.kind)) = true ∧ (parse cs).root.depth ≤ 516 :=
  ⟨tokenize_depth cs, parse_tree_depth cs⟩

end ShapeVerif
