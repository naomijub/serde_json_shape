/-
C07 — Inference depends only on the type structure of the document (document-tree level):
scalar payloads and lexical forms, the number of same-shaped elements of a non-empty array, and the
order of members are irrelevant. The lift to texts goes through the text-layer model (C04).
-/
import ShapeVerif.Lemmas.InferSpec
namespace ShapeVerif
open Shape

mutual
/-- erase every scalar payload (which number, which string, true versus false) -/
def skel : Doc → Doc
  | .null => .null
  | .bool _ => .bool false
  | .num _ => .num ""
  | .str _ => .str ""
  | .arr xs => .arr (skelList xs)
  | .obj ms => .obj (skelMembers ms)
def skelList : List Doc → List Doc
  | [] => []
  | x :: xs => skel x :: skelList xs
def skelMembers : List (String × Doc) → List (String × Doc)
  | [] => []
  | (k, v) :: ms => (k, skel v) :: skelMembers ms
end

mutual
theorem infer_skel : ∀ d : Doc, inferDoc (skel d) = inferDoc d
  | .null | .bool _ | .num _ | .str _ => rfl
  | .arr xs => by simp only [skel, inferDoc, infer_skelList xs]
  | .obj ms => by simp only [skel, inferDoc, infer_skelMembers ms]
theorem infer_skelList : ∀ xs : List Doc, inferDocList (skelList xs) = inferDocList xs
  | [] => rfl
  | x :: xs => by simp only [skelList, inferDocList, infer_skel x, infer_skelList xs]
theorem infer_skelMembers : ∀ (ms : List (String × Doc)) (c : Members),
    inferDocMembers (skelMembers ms) c = inferDocMembers ms c
  | [], _ => rfl
  | (k, v) :: ms, c => by
    simp only [skelMembers, inferDocMembers, infer_skel v]
    split
    · rfl
    · split
      · rfl
      · exact infer_skelMembers ms _
end

/-- **payload independence**: which number, which string (and which escapes), true versus false do
not influence the inferred shape, at any depth -/
theorem infer_payload_independent (d : Doc) : inferDoc (skel d) = inferDoc d := infer_skel d

theorem infer_factors (d d' : Doc) (h : skel d = skel d') : inferDoc d = inferDoc d' := by
  rw [← infer_payload_independent d, ← infer_payload_independent d', h]

/-- **repetition independence**: a non-empty array whose elements all have shape `s` is `Array<s>`,
however many elements it has -/
theorem infer_repetition (xs : List Doc) (s : Shape) (hne : xs ≠ [])
    (h : ∀ x ∈ xs, inferDoc x = .ok s) : inferDoc (.arr xs) = .ok (.array s false) := by
  have hes : inferDocList xs = .ok (xs.map fun _ => s) := by
    rw [inferDocList_ok_iff_map, List.map_map]
    exact List.map_congr_left h
  obtain ⟨x, rest, rfl⟩ := List.exists_cons_of_ne_nil hne
  refine inferDoc_arr_ok.2 ⟨_, hes, classifyArray_of_allEqual ((allEqual_cons_iff _ _).2 fun e he => ?_)⟩
  obtain ⟨_, _, rfl⟩ := List.mem_map.1 he
  rfl

/-- the lexical form of a scalar is irrelevant: any two numbers, any two strings, either boolean -/
theorem infer_scalar_forms (a b : String) (p q : Bool) :
    inferDoc (.num a) = inferDoc (.num b) ∧ inferDoc (.str a) = inferDoc (.str b) ∧
    inferDoc (.bool p) = inferDoc (.bool q) := ⟨rfl, rfl, rfl⟩

example : inferDoc (.arr [.num "1", .num "2.5e3", .num "-0"]) = inferDoc (.arr [.num "7"]) := by rfl

/-- The rewrites of a document that the property speaks about, closed under nesting: another
payload or lexical form of a scalar, another order of the members of an object, another number of
copies in an array of copies (each copy can then be rewritten on its own by the congruence rules). -/
inductive Rerender : Doc → Doc → Prop
  | refl (d : Doc) : Rerender d d
  | symm {a b : Doc} : Rerender a b → Rerender b a
  | trans {a b c : Doc} : Rerender a b → Rerender b c → Rerender a c
  | num (a b : String) : Rerender (.num a) (.num b)
  | str (a b : String) : Rerender (.str a) (.str b)
  | bool (p q : Bool) : Rerender (.bool p) (.bool q)
  | element {x y : Doc} (pre post : List Doc) : Rerender x y →
      Rerender (.arr (pre ++ x :: post)) (.arr (pre ++ y :: post))
  | member {v w : Doc} (k : String) (pre post : List (String × Doc)) : Rerender v w →
      Rerender (.obj (pre ++ (k, v) :: post)) (.obj (pre ++ (k, w) :: post))
  | order {ms ms' : List (String × Doc)} : ms.Perm ms' → Rerender (.obj ms) (.obj ms')
  | copies (x : Doc) (n m : Nat) :
      Rerender (.arr (List.replicate (n + 1) x)) (.arr (List.replicate (m + 1) x))

def SameOk (a b : Doc) : Prop := ∀ s, inferDoc a = .ok s ↔ inferDoc b = .ok s

/-- **C07 on document trees**: every re-rendering of a document is given the same shape (and is
rejected when the original is) -/
theorem rerender_same_shape {d d' : Doc} (h : Rerender d d') : SameOk d d' := by
  induction h with
  | refl d => exact fun s => Iff.rfl
  | symm _ ih => exact fun s => (ih s).symm
  | trans _ _ ih1 ih2 => exact fun s => (ih1 s).trans (ih2 s)
  | num a b | str a b | bool p q => exact fun s => Iff.rfl
  | element pre post _ ih =>
    intro s
    simp only [inferDoc_arr_ok, inferDocList_ok_iff_pointwise,
      Pointwise.congr_at (R := fun x e => inferDoc x = .ok e) (fun e => ih e) post pre]
  | member k pre post _ ih =>
    intro s
    simp only [inferDoc_obj_iff, hasMember, List.forall_mem_append, List.forall_mem_cons, List.any_append,
      List.any_cons, ih _]
  | order hp => exact fun s => ⟨infer_member_order hp, infer_member_order hp.symm⟩
  | copies x n m =>
    intro s
    cases hx : inferDoc x with
    | error e => simp [inferDoc, inferDocList, List.replicate_succ, hx]
    | ok sx =>
      have (n : Nat) := infer_repetition (List.replicate (n + 1) x) sx (by simp [List.replicate_succ])
        (fun y hy => List.eq_of_mem_replicate hy ▸ hx)
      rw [this n, this m]

example : Rerender (.obj [("a", .num "1"), ("b", .arr [.str "x", .str "y"])])
    (.obj [("b", .arr [.str "\\u0078"]), ("a", .num "-0.0e+10")]) := by
  refine .trans (.order (List.Perm.swap _ _ [])) ?_
  refine .trans (.member "a" [("b", _)] [] (.num _ "-0.0e+10")) ?_
  refine .member "b" [] [("a", _)] ?_
  refine .trans (.element [] [.str "y"] (.str "x" "\\u0078")) ?_
  refine .trans (.element [.str "\\u0078"] [] (.str "y" "\\u0078")) ?_
  exact .copies (.str "\\u0078") 1 0

end ShapeVerif
