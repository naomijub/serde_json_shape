/-
C08 — Merging follows the documented algebra: idempotent, null-absorbing, order-insensitive (both
orders admit the same documents), and structure-preserving for objects, arrays and scalars.
Null absorption (`merge_null_left`, `merge_null_right`) and `array_struct` are stated with the other
equations of `merger` in `Lemmas/MergeArms.lean`.
-/
import ShapeVerif.Lemmas.Meaning
import ShapeVerif.Lemmas.InferSpec
import ShapeVerif.Props.C10
import ShapeVerif.Props.C01
namespace ShapeVerif
open Shape Std

/-- objects: common keys carry the merge of the two values, one-sided keys the optional form -/
theorem object_struct {c oc : Members} (o p : Bool) (hc : sortedKeys c = true) (ho : sortedKeys oc = true) :
    ∃ M, merger (.object c o) (.object oc p) = .object M (o || p) ∧ sortedKeys M = true ∧
      ∀ k, mapGet k M =
        match mapGet k c, mapGet k oc with
        | some v, some ov => some (merger v ov)
        | some v, none => some v.asOptional
        | none, some ov => some ov.asOptional
        | none, none => none :=
  ⟨mergedContent c oc, merger_object_object c oc o p, sortedKeys_mergedContent c oc,
    mapGet_mergedContent hc ho⟩

/-- two different non-optional scalar kinds give exactly the `OneOf` of the two -/
theorem scalar_struct :
    merger (.bool false) (.number false) = .oneOf [.bool false, .number false] false ∧
    merger (.number false) (.bool false) = .oneOf [.bool false, .number false] false ∧
    merger (.bool false) (.string false) = .oneOf [.bool false, .string false] false ∧
    merger (.string false) (.bool false) = .oneOf [.bool false, .string false] false ∧
    merger (.number false) (.string false) = .oneOf [.number false, .string false] false ∧
    merger (.string false) (.number false) = .oneOf [.number false, .string false] false := by
  refine ⟨?_, ?_, ?_, ?_, ?_, ?_⟩ <;> decide

theorem zipped_self : ∀ {es : List Shape}, wfList es = true → Zipped es es es
  | [], _ => .nil
  | e :: es, h => by
    simp only [wfList, Bool.and_eq_true] at h
    exact .cons (by simp [pickTuple, subset_refl e h.1]) (zipped_self h.2)

/-- merging a shape with itself gives the shape back -/
theorem merger_idem (s : Shape) (hw : s.wf = true) : merger s s = s := by
  induction s with
  | null => rfl
  | bool o | number o | string o => cases o <;> rfl
  | array t o ih => rw [array_struct, ih hw, Bool.or_self]
  | object c o ih =>
    rw [wf_object_iff] at hw
    rw [merger_object_object, Bool.or_self]
    congr 1
    refine members_ext (sortedKeys_mergedContent c c) hw.1 fun k => ?_
    rw [mapGet_mergedContent hw.1 hw.1]
    cases hg : mapGet k c with
    | none => rfl
    | some v => simp [ih _ (mem_of_mapGet hg) (hw.2 _ (mem_of_mapGet hg))]
  | oneOf vs o =>
    rw [wf_oneOf_iff] at hw
    rw [merger_oneOf_oneOf, setExtend_of_subset hw.1 fun _ hx => hx, Bool.or_self]
  | tuple es o => rw [merger_tuples_zipped (zipped_self hw), Bool.or_self]

theorem Zipped.comm {es os folded : List Shape} (h : Zipped es os folded) :
    wfList es = true → wfList os = true →
    ∃ folded', Zipped os es folded' ∧ Pointwise meaningEq folded folded' := by
  induction h with
  | nil => exact fun _ _ => ⟨[], .nil, trivial⟩
  | @cons e d c _ _ _ hc _ ih =>
    simp only [wfList, Bool.and_eq_true]
    intro he hd
    obtain ⟨cs', hz, hms⟩ := ih he.2 hd.2
    -- `pickTuple` answers for `(d, e)` whenever it does for `(e, d)`: its four tests are symmetric
    have hsome : (pickTuple d e).isSome = true := by
      rw [pickTuple_isSome, Bool.or_comm (isSubset d e), Bool.or_right_comm, ← pickTuple_isSome, hc]
      rfl
    obtain ⟨c', hc'⟩ := Option.isSome_iff_exists.1 hsome
    refine ⟨c' :: cs', .cons hc' hz, fun x => ?_, hms⟩
    rw [pickTuple_admits he.1 hd.1 hc, pickTuple_admits hd.1 he.1 hc', Bool.or_comm]

theorem Merged.comm {a b r : Shape} (h : Merged a b r) : a.wf = true → b.wf = true →
    meaningEq r (merger b a) := by
  induction h with
  | nullLeft | nullRight =>
    intro _ _
    simp only [merge_null_right, merge_null_left]
    exact meaningEq_refl _
  | scalars k o p hk =>
    intro _ _
    rw [merger_scalars hk, Bool.or_comm]
    exact meaningEq_refl _
  | oneOfs vs o ws p =>
    intro _ _ d
    rw [merger_oneOf_oneOf, admits_oneOf_setExtend, admits_oneOf_setExtend, Bool.or_comm]
  | intoRight _ _ _ h | intoLeft _ _ _ h =>
    intro _ _
    simp only [merger_oneOf_left h, merger_oneOf_right h]
    exact meaningEq_refl _
  | arrays t o t' p _ ih =>
    intro ha hb
    rw [array_struct, Bool.or_comm]
    exact meaningEq_array (ih ha hb)
  | objects c o oc p _ ih =>
    simp only [wf_object_iff]
    intro ha hb
    rw [merger_object_object, Bool.or_comm p o]
    refine meaningEq_object (sortedKeys_mergedContent _ _) (sortedKeys_mergedContent _ _) fun k => ?_
    rw [mapGet_mergedContent ha.1 hb.1, mapGet_mergedContent hb.1 ha.1]
    cases hv : mapGet k c <;> cases hov : mapGet k oc <;> simp only
    · exact meaningEq_refl _
    · exact meaningEq_refl _
    · exact ih k _ _ hv hov (ha.2 _ (mem_of_mapGet hv)) (hb.2 _ (mem_of_mapGet hov))
  | arrayTuple | tupleArray => exact fun _ _ => meaningEq_refl _
  | tuplesZip es o os p folded hz =>
    intro ha hb
    obtain ⟨folded', hz', hm⟩ := hz.comm ha hb
    rw [merger_tuples_zipped hz', Bool.or_comm]
    exact meaningEq_tuple hm
  | tuplesUnion es o os p hno =>
    intro ha hb
    rw [merger_tuples_union fun f hf => (hf.comm hb ha).elim fun f' hf' => hno f' hf'.1, Bool.or_comm p o]
    refine meaningEq_array fun d => ?_
    rw [admits_oneOf, admits_oneOf, admitsAny_tupleUnionVariants, admitsAny_tupleUnionVariants,
      Bool.or_comm (es.any _)]
  | mixed a b hm =>
    intro _ _ d
    rw [merger_mixed ((mixes_comm b a).trans hm), admits_mixed, admits_mixed, Bool.or_comm]

/-- **order-insensitivity**: both orders of a merge admit exactly the same documents -/
theorem merger_comm_sem (a b : Shape) (ha : a.wf = true) (hb : b.wf = true) :
    meaningEq (merger a b) (merger b a) := (merged a b).comm ha hb

theorem sources_pair {d e : Doc} {sd se : Shape} (hd : inferDoc d = .ok sd) (he : inferDoc e = .ok se) :
    fromSourcesDoc [d, e] = .ok (merger sd se) := by
  simp [fromSourcesDoc, inferDocList, hd, he, merge]

/-- `from_sources([d, d]) == from_str(d)` -/
theorem sources_idem {d : Doc} {s : Shape} (h : inferDoc d = .ok s) : fromSourcesDoc [d, d] = .ok s := by
  rw [sources_pair h h, merger_idem s (infer_wf h)]

theorem foldl_merger_rep (s : Shape) (hw : s.wf = true) : ∀ k, (List.replicate k s).foldl merger s = s
  | 0 => rfl
  | k + 1 => by simp [List.replicate_succ, List.foldl_cons, merger_idem s hw, foldl_merger_rep s hw k]

/-- idempotence for any number of copies: `from_sources([d; k+1]) == from_str(d)` -/
theorem sources_idem_k {d : Doc} {s : Shape} (h : inferDoc d = .ok s) (k : Nat) :
    fromSourcesDoc (List.replicate (k + 1) d) = .ok s := by
  unfold fromSourcesDoc
  rw [inferDocList_replicate h (k + 1)]
  simp [List.replicate_succ, merge, foldl_merger_rep s (infer_wf h) k]

/-- `from_sources([d, null]) == from_sources([null, d]) == optional(from_str(d))` -/
theorem sources_null {d : Doc} {s : Shape} (h : inferDoc d = .ok s) :
    fromSourcesDoc [d, .null] = .ok s.asOptional ∧ fromSourcesDoc [.null, d] = .ok s.asOptional := by
  constructor
  · rw [sources_pair h (by rfl), merge_null_right]
  · rw [sources_pair (by rfl) h, merge_null_left]

/-- `meaning(from_sources([d, e])) == meaning(from_sources([e, d]))` -/
theorem sources_comm {d e : Doc} {sd se : Shape} (hd : inferDoc d = .ok sd) (he : inferDoc e = .ok se) :
    ∃ s s', fromSourcesDoc [d, e] = .ok s ∧ fromSourcesDoc [e, d] = .ok s' ∧ meaningEq s s' :=
  ⟨_, _, sources_pair hd he, sources_pair he hd, merger_comm_sem sd se (infer_wf hd) (infer_wf he)⟩

/-- non-vacuity, and the D21 witness after the repair: both orders now give the same shape -/
example :
    merger (.tuple [.array .null true, .number false] false) (.array (.number false) false)
      = merger (.array (.number false) false) (.tuple [.array .null true, .number false] false) := by rfl

end ShapeVerif
