/-
C02 — Validation never accepts what the shape does not admit.
`subset_sound`: whenever `a.is_subset(b)` answers true, every document admitted by `a` is admitted
by `b` (reference semantics `admits`), for all shapes `a` and all well-formed `b`.
-/
import ShapeVerif.Lemmas.Admits
import ShapeVerif.Lemmas.SubsetEqs
namespace ShapeVerif
open Shape

theorem admits_null_of_isOneOfNull {s : Shape} (h : isOneOfNull s = true) : admits s .null = true := by
  cases s with
  | oneOf vs o =>
    rw [admits_oneOf, admitsAny_iff.2 ⟨.null, setContains_iff.1 h, admits_null_null⟩]
    rfl
  | _ => cases h

theorem admits_null_of_nullableSyn {v : Shape} (h : nullableSyn v = true) : admits v .null = true :=
  (Bool.or_eq_true _ _ ▸ h).elim admits_null_of_isOptional admits_null_of_isOneOfNull

/-- **C02.** Whenever a shape is reported to be a subset of another (`isSubset a b = true`), every
JSON document admitted by the first is admitted by the second — for every `a` and every well-formed `b`. -/
theorem subset_sound (a b : Shape) (hw : b.wf = true) (h : isSubset a b = true) :
    ∀ d, admits a d = true → admits b d = true := by
  intro d hd
  induction b using Shape.indAtom generalizing a d with
  | atom b hb =>
    rw [sub_atom hb, Bool.or_eq_true, Bool.and_eq_true, Bool.and_eq_true, beq_iff_eq, flag_le] at h
    rcases h with ⟨ha, hbo⟩ | ⟨ht, hf⟩
    · cases isNull_iff.1 ha
      rw [admits_null_iff.1 hd]
      exact admits_null_of_isOptional hbo
    · rw [atom_eq_withOptional hb ht] at hd
      exact admits_of_withOptional hd hf
  | array u p ih =>
    simp only [Shape.wf] at hw
    rcases sub_array_inv h with ⟨t, o, rfl, ht, ho⟩ | ⟨es, o, rfl, hes, ho⟩ | ⟨rfl, hp⟩
    · exact admits_array_mono (ih t hw ht) ho hd
    · exact admits_tuple_to_array (fun e he => ih e hw (hes e he)) ho hd
    · rw [admits_null_iff.1 hd, admits_array_null]
      exact hp
  | tuple os p ih =>
    rw [wf_tuple_iff] at hw
    rcases sub_tuple_inv h with ⟨es, o, rfl, hz, ho⟩ | ⟨rfl, hp⟩
    · rcases admits_tuple_cases hd with ⟨rfl, hn⟩ | ⟨xs, rfl, hxs⟩
      · rw [admits_tuple_null]
        exact ho hn
      · rw [admits_tuple_arr, admitsZip_iff] at *
        exact hz.flip.comp hxs fun o ho e _ x _ he hex => ih o ho e (hw o ho) he x hex
    · rw [admits_null_iff.1 hd, admits_tuple_null]
      exact hp
  | object oc p ih =>
    rw [wf_object_iff] at hw
    rcases sub_object_inv h with ⟨c, o, rfl, hc, ho⟩ | ⟨rfl, hp⟩
    · rw [objSub_iff] at hc
      refine admits_object_mono hw.1 ho (fun k => ?_) hd
      cases hv : mapGet k c with
      | none =>
        cases hov : mapGet k oc with
        | none => trivial
        | some ov =>
          -- a key that only `oc` has must be nullable there
          refine admits_null_of_nullableSyn ((hc.1 k ov (mem_of_mapGet hov)).resolve_left fun hk => ?_)
          obtain ⟨v, hv'⟩ := mapContainsKey_iff.1 hk
          exact mapGet_none_iff.1 hv v hv'
      | some v =>
        obtain ⟨ov, hov, hsub⟩ := hc.2 k v (mem_of_mapGet hv)
        rw [hov]
        exact ih _ (mem_of_mapGet hov) v (hw.2 _ (mem_of_mapGet hov)) hsub
    · rw [admits_null_iff.1 hd, admits_object_null]
      exact hp
  | oneOf ws p ih =>
    simp only [Shape.wf, Bool.and_eq_true, wfList_iff] at hw
    have ih' := fun v hv e he => ih v hv e (hw.2 v hv) he
    rcases a.classes with rfl | hs | hs | ⟨vs, o, rfl⟩
    · simp only [null_sub_oneOf, Bool.or_eq_true, setContains_iff] at h
      rw [admits_null_iff.1 hd]
      exact h.elim (fun hp => by simp [admits_oneOf, hp, Doc.isNull]) (admits_oneOf_of_mem · admits_null_null)
    · simp only [scalar_sub_oneOf hs, Bool.or_eq_true, Bool.and_eq_true, setContains_iff, List.any_eq_true,
        beq_iff_eq, Bool.not_eq_true'] at h
      rcases h with ⟨ho, hm⟩ | ⟨⟨v, hv, ht⟩, hn⟩
      · rw [asNonOptional, ← ho, withOptional_self] at hm
        exact admits_oneOf_of_mem hm hd
      · cases hdn : d.isNull with
        | true =>
          rw [Doc.isNull_iff.1 hdn]
          exact admits_oneOf_of_mem hn admits_null_null
        | false =>
          rw [atom_eq_withOptional (isAtom_of_isScalar hs) ht] at hv
          exact admits_oneOf_of_mem hv (admits_withOptional_of_ne_null _ hd hdn)
    · simp only [container_sub_oneOf hs, List.any_eq_true, Bool.and_eq_true, Bool.or_eq_true,
        setContains_iff, Bool.not_eq_true'] at h
      obtain ⟨v, hv, ⟨hn, _⟩, hsv⟩ := h
      cases hdn : d.isNull with
      | true =>
        rw [Doc.isNull_iff.1 hdn] at hd ⊢
        rcases hn with (ho | hp | hn) | hvo
        · rw [admits_null_simple (simple_of_isContainer hs), ho] at hd
          cases hd
        · simp [admits_oneOf, hp, Doc.isNull]
        · exact admits_oneOf_of_mem hn admits_null_null
        · exact admits_oneOf_of_mem hv (admits_null_of_isOptional hvo)
      | false => exact admits_oneOf_of_mem hv (ih' v hv _ hsv d (admits_asNonOptional hd hdn))
    · rw [sub_oneOf_oneOf, Bool.and_eq_true, flag_le, Bool.or_eq_true] at h
      rw [admits_oneOf, Bool.or_eq_true, Bool.and_eq_true] at hd ⊢
      refine hd.imp (fun hd => ?_) (.imp_left h.1)
      obtain ⟨v, hv, hvd⟩ := admitsAny_iff.1 hd
      rcases h.2 with hsub | hsub
      · exact admitsAny_iff.2 ⟨v, setIsSubset_iff.1 hsub v hv, hvd⟩
      · obtain ⟨w, hw', hvw⟩ := anySuperset_iff.1 (List.all_eq_true.1 hsub v hv)
        exact admitsAny_iff.2 ⟨w, hw', ih' w hw' v hvw d hvd⟩

/-- non-vacuity: a non-trivial `true` answer between well-formed shapes with nested OneOf/tuple -/
example :
    let a := Shape.tuple [.number false, .object [("k", .string false)] false] true
    let b := Shape.array (.oneOf [.number false, .object [("k", .string false)] false] false) true
    b.wf = true ∧ isSubset a b = true := by decide

/-- the defect repaired by the D5 fix stays refuted in the model: an optional tuple is not a subset
of a non-optional array (the left admits `null`, the right does not) -/
example :
    isSubset (.tuple [.number false, .string false] true)
      (.array (.oneOf [.number false, .string false] false) false) = false := by decide

end ShapeVerif
