/-
C06 — Text-based and value-based inference agree.
`paths_agree_all`: for every document tree the text path accepts, the shape inferred by the text
path (`parse_rule`, model `inferDoc`) equals the shape inferred by the value path
(`From<&serde_json::Value>`, model `inferSVal`) from the serde_json value of the same document
(`Doc.toSVal`: members sorted by key, the last of repeated names kept). `paths_agree` is the case of
documents without repeated member names, which is what the property speaks of.
-/
import ShapeVerif.Lemmas.InferSpec
namespace ShapeVerif
open Shape Std

theorem getMember_insertMember (k k' : String) (v : Doc) (m : List (String × Doc)) :
    Doc.getMember k (Doc.insertMember k' v m) = if k == k' then some v else Doc.getMember k m := by
  induction m with
  | nil => rfl
  | cons b m ih =>
    obtain ⟨k0, v0⟩ := b
    unfold Doc.insertMember
    cases hc : compare k' k0 with
    | lt => rfl
    | eq =>
      cases compare_eq_iff_eq.1 hc
      by_cases h : (k == k') = true <;> simp [Doc.getMember, h]
    | gt =>
      have hne : k' ≠ k0 := fun e => by
        rw [e, ReflCmp.compare_self (cmp := compare)] at hc
        cases hc
      simp only [Doc.getMember, ih]
      by_cases h0 : (k == k0) = true
      · have hk : k ≠ k' := fun e => hne (e.symm.trans (eq_of_beq h0))
        simp [h0, hk]
      · simp [h0]

/-- after `toSValMembers`, a key is bound to the image of its last binding in the source list -/
theorem getMember_toSValMembers (k : String) : ∀ (ms acc : List (String × Doc)),
    Doc.getMember k (Doc.toSValMembers ms acc) =
      match (ms.reverse.find? (fun kv => k == kv.1)) with
      | some kv => some (Doc.toSVal kv.2)
      | none => Doc.getMember k acc
  | [], acc => rfl
  | (k', v) :: ms, acc => by
    simp only [Doc.toSValMembers, getMember_toSValMembers k ms, List.reverse_cons, List.find?_append]
    cases h : ms.reverse.find? (fun kv => k == kv.1) with
    | some kv => rfl
    | none =>
      simp only [Option.none_or, getMember_insertMember, List.find?_cons, List.find?_nil]
      by_cases hk : (k == k') = true <;> simp [hk]

theorem mapGet_inferSValMembers (k : String) : ∀ (l : List (String × Doc)),
    mapGet k (inferSValMembers l) = (Doc.getMember k l).map inferSVal
  | [] => rfl
  | (k', v) :: l => by
    simp only [inferSValMembers, mapGet_mapInsert, Doc.getMember, mapGet_inferSValMembers k l]
    by_cases h : (k == k') = true <;> simp [h]

theorem sortedKeys_inferSValMembers : ∀ (l : List (String × Doc)), sortedKeys (inferSValMembers l) = true
  | [] => rfl
  | (k, v) :: l => by
    simp only [inferSValMembers]
    exact sortedKeys_mapInsert (sortedKeys_inferSValMembers l)

theorem inferSValList_toSValList {xs : List Doc} {es : List Shape}
    (h : Pointwise (fun x e => inferSVal x.toSVal = e) xs es) : inferSValList (Doc.toSValList xs) = es :=
  h.ind rfl fun hr _ ih => by simp only [Doc.toSValList, inferSValList, hr, ih]

/-- The two paths agree on every document the text path accepts. A repeated member name is no
obstacle: the text path accepts it only if all its values have one shape, and the value path keeps
the last of them. -/
theorem paths_agree_all (d : Doc) (s : Shape) (h : inferDoc d = .ok s) : inferSVal d.toSVal = s := by
  induction d generalizing s with
  | arr xs ih =>
    obtain ⟨es, hes, hc⟩ := inferDoc_arr_ok.1 h
    have pw : Pointwise (fun x e => inferSVal x.toSVal = e) xs es :=
      (inferDocList_ok_iff_pointwise.1 hes).imp_mem fun x hx e _ => ih x hx e
    obtain ⟨hwf, hno, hflag⟩ := inferDocList_wf_noOneOfValues_flagOff hes
    rw [classify_agree es hwf hno hflag] at hc
    cases hc
    simp only [Doc.toSVal, inferSVal, inferSValList_toSValList pw]
  | obj ms ih =>
    obtain ⟨c, rfl, hcs, hmem, honly⟩ := inferDoc_obj_iff.1 h
    simp only [Doc.toSVal, inferSVal]
    congr 1
    refine members_ext (sortedKeys_inferSValMembers _) hcs fun k => ?_
    rw [mapGet_inferSValMembers, getMember_toSValMembers]
    cases hf : ms.reverse.find? (fun kv => k == kv.1) with
    | some kv =>
      have hkv : kv ∈ ms := List.mem_reverse.1 (List.mem_of_find?_eq_some hf)
      obtain rfl : k = kv.1 := by simpa using List.find?_some hf
      obtain ⟨sv, hsv, hget⟩ := hmem kv hkv
      simp only [Option.map_some, hget, ih kv hkv sv hsv]
    | none =>
      simp only [Doc.getMember, Option.map_none]
      cases hg : mapGet k c with
      | none => rfl
      | some sv =>
        obtain ⟨kv, hkv, hk⟩ := List.any_eq_true.1 (honly k sv hg)
        have := List.find?_eq_none.1 hf kv (List.mem_reverse.2 hkv)
        simp only [beq_iff_eq] at this hk
        exact absurd hk.symm this
  | _ =>
    cases h
    rfl

/-- **C06.** For every document without repeated member names, the text path and the value path
infer the same shape. -/
theorem paths_agree (d : Doc) (s : Shape) (hnd : d.noDupKeys = true) (h : inferDoc d = .ok s) :
    inferSVal d.toSVal = s := have _ := hnd; paths_agree_all d s h

/-- `JsonVisitor::from` stores `JsonShape::from(value)` and the reference it was given: modelled as that
pair by definition, so `visitor_spec` below only reads the two components of `visitorOf` back -/
def visitorOf (v : Doc) : Doc × Shape := (v, inferSVal v)
theorem visitor_spec (v : Doc) : (visitorOf v).2 = inferSVal v ∧ (visitorOf v).1 = v := ⟨rfl, rfl⟩

/-- non-vacuity: a document with out-of-order members, an array of objects with a missing middle
key (the D2 witness) and an empty array (the D1 witness) -/
example :
    let d := Doc.obj [("z", .arr []), ("m", .arr [.obj [("a", .num "1"), ("b", .num "2"), ("c", .num "3")],
                                                   .obj [("b", .num "2"), ("c", .num "3")]])]
    d.noDupKeys = true ∧ ∃ s, inferDoc d = .ok s ∧ inferSVal d.toSVal = s := by
  exact ⟨by decide, _, rfl, rfl⟩

end ShapeVerif
