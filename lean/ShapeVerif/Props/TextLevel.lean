/-
Text-level corollaries: with the two halves of `accept_iff` (`accepted_is_json`, `json_is_inferred`, C04)
the theorems about document trees become theorems about the strings given to `from_str`,
`from_sources`, `is_superset`, `is_superset_checked`.
A *reading* of a text is a cut into RFC 8259 lexemes and the document they derive (scalar payloads
erased; member names unescaped), within the depth bound.
-/
import ShapeVerif.Props.C04
import ShapeVerif.Props.C01
import ShapeVerif.Props.C02
import ShapeVerif.Props.C03
import ShapeVerif.Props.C07
import ShapeVerif.Props.C08
import ShapeVerif.Props.C09
import ShapeVerif.Props.C06
namespace ShapeVerif
open Shape

def Reads (t : List Char) (d : Doc) : Prop :=
  ∃ toks, JsonTextVia t toks d ∧ depthOk (toks.map (·.kind)) = true

theorem fromStr_of_reads {t : List Char} {d : Doc} (h : Reads t d) : fromStr t = liftS (inferDoc d) := by
  obtain ⟨toks, h1, h2⟩ := h
  exact json_is_inferred t toks d h1 h2

theorem reads_of_accept {t : List Char} {s : Shape} (h : fromStr t = .ok s) :
    ∃ d, Reads t d ∧ inferDoc d = .ok s := by
  obtain ⟨toks, d, h1, h2, h3⟩ := accepted_is_json t s h
  exact ⟨d, ⟨toks, h1, h2⟩, h3⟩

theorem fromStr_reads_iff {t : List Char} {d : Doc} (h : Reads t d) {s : Shape} :
    fromStr t = .ok s ↔ inferDoc d = .ok s := by
  rw [fromStr_of_reads h, liftS_eq_ok]

theorem fromSources_go_reads : ∀ (ps : List (List Char × Doc)) (acc : List Shape), (∀ p ∈ ps, Reads p.1 p.2) →
    fromSources.go (ps.map (·.1)) acc =
      match inferDocList (ps.map (·.2)) with
      | .ok ss => .ok (acc.reverse ++ ss)
      | .error e => .err (inferErrToPErr e)
  | [], acc, _ => by simp [fromSources.go, inferDocList]
  | (t, d) :: ps, acc, h => by
    have h1 := fromStr_of_reads (h (t, d) (by simp))
    simp only [List.map_cons, fromSources.go, inferDocList, h1]
    cases hi : inferDoc d with
    | error e => simp [liftS]
    | ok s =>
      simp only [liftS]
      rw [fromSources_go_reads ps (s :: acc) (fun p hp => h p (by simp [hp]))]
      cases inferDocList (ps.map (·.2)) with
      | error e => rfl
      | ok ss => simp

theorem fromSources_reads_eq (ps : List (List Char × Doc)) (h : ∀ p ∈ ps, Reads p.1 p.2) :
    fromSources (ps.map (·.1)) =
      match fromSourcesDoc (ps.map (·.2)) with
      | .ok s => .ok s
      | .error (.infer e) => .err (inferErrToPErr e)
      | .error .emptyFile => .err .emptyFile := by
  unfold fromSources fromSourcesDoc
  rw [fromSources_go_reads ps [] h]
  cases inferDocList (ps.map (·.2)) with
  | error e => rfl
  | ok ss =>
    simp only [List.reverse_nil, List.nil_append]
    cases merge ss <;> rfl

theorem fromSources_reads (ps : List (List Char × Doc)) (h : ∀ p ∈ ps, Reads p.1 p.2) (s : Shape) :
    fromSources (ps.map (·.1)) = .ok s ↔ fromSourcesDoc (ps.map (·.2)) = .ok s := by
  rw [fromSources_reads_eq ps h]
  cases fromSourcesDoc (ps.map (·.2)) with
  | ok v => simp
  | error e => cases e <;> simp

theorem fromSources_reads_append_iff (ps rs : List (List Char × Doc)) (h : ∀ p ∈ ps ++ rs, Reads p.1 p.2) (s : Shape) :
    fromSources (ps.map (·.1) ++ rs.map (·.1)) = .ok s ↔ fromSourcesDoc (ps.map (·.2) ++ rs.map (·.2)) = .ok s := by
  simpa using fromSources_reads (ps ++ rs) h s

theorem superset_true {sh : Shape} {t : List Char} (h : isSuperset sh t = .ok true ∨ isSupersetChecked sh t = .ok true) :
    ∃ v, fromStr t = .ok v ∧ isSubset v sh = true := by
  unfold isSuperset isSupersetChecked at h
  cases hf : fromStr t <;> simp [hf] at h
  exact ⟨_, rfl, h⟩

/-- **C01 on texts**: the shape `from_sources` inferred admits the document of every given reading of a
source text (a reading exists by `reads_of_accept`) (for conflict-free documents; known finding D3 lies among the others) -/
theorem sources_sound_text (ps : List (List Char × Doc)) (h : ∀ p ∈ ps, Reads p.1 p.2) (s : Shape)
    (hs : fromSources (ps.map (·.1)) = .ok s) (hcf : ∀ p ∈ ps, conflictFree p.2 = true) :
    ∀ p ∈ ps, admits s p.2 = true := by
  have hdoc := (fromSources_reads ps h s).1 hs
  intro p hp
  refine fromSourcesDoc_admits hdoc (fun d hd => ?_) p.2 (List.mem_map.2 ⟨p, hp, rfl⟩)
  obtain ⟨q, hq, rfl⟩ := List.mem_map.1 hd
  exact hcf q hq

/-- **C02 on texts**: a `true` answer of `is_superset` (or `Ok(true)` of the checked variant) means the
text is JSON and the shape admits its document -/
theorem superset_sound_text (sh : Shape) (hw : sh.wf = true) (t : List Char)
    (h : isSuperset sh t = .ok true ∨ isSupersetChecked sh t = .ok true) :
    ∃ d, Reads t d ∧ (conflictFree d = true → admits sh d = true) := by
  obtain ⟨v, hv, hsub⟩ := superset_true h
  obtain ⟨d, hr, hi⟩ := reads_of_accept hv
  exact ⟨d, hr, fun hcf => subset_sound v sh hw hsub d (infer_sound hcf hi)⟩

/-- **C03 on texts**: the shape inferred from a set of source texts accepts each of them, through
both validation entry points -/
theorem superset_of_sample_text (ps : List (List Char × Doc)) (h : ∀ p ∈ ps, Reads p.1 p.2) (s : Shape)
    (hs : fromSources (ps.map (·.1)) = .ok s) :
    ∀ p ∈ ps, isSuperset s p.1 = .ok true ∧ isSupersetChecked s p.1 = .ok true := by
  have hdoc := (fromSources_reads ps h s).1 hs
  intro p hp
  obtain ⟨sd, h1, h2⟩ := samples_accepted _ s hdoc p.2 (List.mem_map.2 ⟨p, hp, rfl⟩)
  have hf : fromStr p.1 = .ok sd := (fromStr_reads_iff (h p hp)).2 h1
  simp [isSuperset, isSupersetChecked, hf, h2]

/-- **C07 on texts**: two JSON texts whose documents differ only by the rewrites of the property
(whitespace and lexical forms of scalars do not even reach the document; member order, number of
copies, payloads are the `Rerender` relation) are given the same shape, or are both rejected -/
theorem render_independent {t t' : List Char} {d d' : Doc} (h : Reads t d) (h' : Reads t' d')
    (hr : Rerender d d') (s : Shape) : fromStr t = .ok s ↔ fromStr t' = .ok s :=
  (fromStr_reads_iff h).trans ((rerender_same_shape hr s).trans (fromStr_reads_iff h').symm)

/-- texts with the same document (they differ in whitespace, in the lexical form of numbers and
strings, in escapes inside member names that denote the same name) get the same result -/
theorem same_document_same_result {t t' : List Char} {d : Doc} (h : Reads t d) (h' : Reads t' d) :
    fromStr t = fromStr t' := by
  rw [fromStr_of_reads h, fromStr_of_reads h']

theorem fromSources_reads_pair_iff {t u : List Char} {d e : Doc} (ht : Reads t d) (hu : Reads u e) (s : Shape) :
    fromSources [t, u] = .ok s ↔ fromSourcesDoc [d, e] = .ok s :=
  fromSources_reads [(t, d), (u, e)] (by
    intro p hp
    simp only [List.mem_cons, List.not_mem_nil, or_false] at hp
    rcases hp with rfl | rfl
    · exact ht
    · exact hu) s

/-- **C08 on texts**: `from_sources([t, t]) == from_str(t)` -/
theorem sources_idem_text {t : List Char} {d : Doc} (h : Reads t d) {s : Shape} (hs : fromStr t = .ok s) :
    fromSources [t, t] = .ok s :=
  (fromSources_reads_pair_iff h h s).2 (sources_idem ((fromStr_reads_iff h).1 hs))

/-- **C08 on texts**: any number of copies of one source text give the shape of the text -/
theorem sources_idem_k_text {t : List Char} {d : Doc} (h : Reads t d) {s : Shape} (hs : fromStr t = .ok s)
    (k : Nat) : fromSources (List.replicate (k + 1) t) = .ok s := by
  have := (fromSources_reads (List.replicate (k + 1) (t, d)) (by
    intro p hp; rw [(List.mem_replicate.1 hp).2]; exact h) s).2 (by
    simpa using sources_idem_k ((fromStr_reads_iff h).1 hs) k)
  simpa using this

/-- **C08 on texts**: merging with a text that reads as `null`, on either side, gives exactly the
optional form -/
theorem sources_null_text {t tn : List Char} {d : Doc} (h : Reads t d) (hn : Reads tn .null) {s : Shape}
    (hs : fromStr t = .ok s) :
    fromSources [t, tn] = .ok s.asOptional ∧ fromSources [tn, t] = .ok s.asOptional := by
  have := sources_null ((fromStr_reads_iff h).1 hs)
  exact ⟨(fromSources_reads_pair_iff h hn _).2 this.1, (fromSources_reads_pair_iff hn h _).2 this.2⟩

/-- **C08 on texts**: both orders of two source texts admit the same documents -/
theorem sources_comm_text {t u : List Char} {d e : Doc} (ht : Reads t d) (hu : Reads u e) {sd se : Shape}
    (hd : fromStr t = .ok sd) (he : fromStr u = .ok se) :
    ∃ s s', fromSources [t, u] = .ok s ∧ fromSources [u, t] = .ok s' ∧ meaningEq s s' := by
  obtain ⟨s, s', h1, h2, h3⟩ := sources_comm ((fromStr_reads_iff ht).1 hd) ((fromStr_reads_iff hu).1 he)
  exact ⟨s, s', (fromSources_reads_pair_iff ht hu s).2 h1, (fromSources_reads_pair_iff hu ht s').2 h2, h3⟩

/-- **C09 on texts**: once a text is among the sources, feeding it again any number of times keeps
the meaning of the shape, and the shape itself is stable from the first repetition on -/
theorem converge_text (ps : List (List Char × Doc)) (h : ∀ p ∈ ps, Reads p.1 p.2) (p : List Char × Doc) (hp : p ∈ ps)
    (a : Shape) (ha : fromSources (ps.map (·.1)) = .ok a) :
    ∀ k, ∃ sk, fromSources (ps.map (·.1) ++ List.replicate k p.1) = .ok sk ∧ meaningEq sk a ∧
      (1 ≤ k → fromSources (ps.map (·.1) ++ List.replicate (k + 1) p.1) = .ok sk) := by
  intro k
  obtain ⟨sk, h1, h2, h3⟩ := converge (ps.map (·.2)) p.2 a (List.mem_map.2 ⟨p, hp, rfl⟩) ((fromSources_reads ps h a).1 ha) k
  have bridge := fun n => fromSources_reads_append_iff ps (List.replicate n p) (by
    intro q hq
    rcases List.mem_append.1 hq with hq | hq
    · exact h q hq
    · rw [(List.mem_replicate.1 hq).2]; exact h p hp) sk
  simp only [List.map_replicate] at bridge
  exact ⟨sk, (bridge k).2 h1, h2, fun hk => (bridge (k + 1)).2 (h3 hk)⟩

/-- **C01 on texts, any extension**: feeding any further source texts never removes a previously
admitted document from the shape -/
theorem many_more_text (ps rs : List (List Char × Doc)) (h : ∀ p ∈ ps ++ rs, Reads p.1 p.2)
    (s s' : Shape) (x : Doc) (h1 : fromSources (ps.map (·.1)) = .ok s)
    (h2 : fromSources (ps.map (·.1) ++ rs.map (·.1)) = .ok s') (hx : admits s x = true) :
    admits s' x = true :=
  many_more (ps.map (·.2)) (rs.map (·.2)) s s' x
    ((fromSources_reads ps (fun p hp => h p (List.mem_append.2 (Or.inl hp))) s).1 h1)
    ((fromSources_reads_append_iff ps rs h s').1 h2) hx

/-- **C09 on texts, any re-feeding order**: after the source texts `ps`, feeding any sequence `rs` of
texts that are already among the sources (any order, any multiplicity, interleaved) succeeds and keeps
the meaning of the shape -/
theorem readd_any_text (ps rs : List (List Char × Doc)) (h : ∀ p ∈ ps, Reads p.1 p.2)
    (hr : ∀ p ∈ rs, p ∈ ps) (a : Shape) (ha : fromSources (ps.map (·.1)) = .ok a) :
    ∃ s, fromSources (ps.map (·.1) ++ rs.map (·.1)) = .ok s ∧ meaningEq s a := by
  have hdoc := (fromSources_reads ps h a).1 ha
  obtain ⟨s, h1, h2⟩ := readd_any (rs.map (·.2)) (ps.map (·.2)) a hdoc (by
    intro d hd
    obtain ⟨q, hq, rfl⟩ := List.mem_map.1 hd
    exact List.mem_map.2 ⟨q, hr q hq, rfl⟩)
  exact ⟨s, (fromSources_reads_append_iff ps rs (fun q hq => (List.mem_append.1 hq).elim (h q) fun hq => h q (hr q hq)) s).2 h1, h2⟩

/-- **C06 on texts**: for a JSON text whose document has no repeated member names, the shape
`from_str` infers is the shape the value path infers from the text's value (`d.toSVal`: members sorted
by name — the model of what `serde_json::from_str::<Value>` returns for the text, compared with the
real `serde_json` on every generated text) -/
theorem paths_agree_text {t : List Char} {d : Doc} (h : Reads t d) (hnd : d.noDupKeys = true) {s : Shape}
    (hs : fromStr t = .ok s) : inferSVal d.toSVal = s :=
  paths_agree d s hnd ((fromStr_reads_iff h).1 hs)

end ShapeVerif
