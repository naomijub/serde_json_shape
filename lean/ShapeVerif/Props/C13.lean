/-
C13 — Generated code is a well-formed, self-contained Rust module (the part a model can carry).
* every struct/enum is defined exactly once (`defined_once`, the D15 repair) and every type name the
  module mentions is defined in it (`refs_defined`): both read off `createSubtype_walk`, the invariant
  of `create_subtype`'s walk, proved along the walk's own recursion;
* outside the defect class D17 (`badFields`) every struct has legal, pairwise distinct field names
  (`fields_legal`); by `toSnake_lower` a non-empty name of lower-case ASCII letters is its own snake form,
  so the good class is not a technicality (keywords aside).
The rendered text is checked by an independent parser on every run; rustc judges the rest on batches.
-/
import ShapeVerif.Props.C14
namespace ShapeVerif
open Shape

def itemName : GItem → String
  | .alias n _ => n
  | .struct_ n _ => n
  | .enum_ n _ => n

mutual
def refsTy : Ty → List String
  | .named n => [n]
  | .option t => refsTy t
  | .vec t => refsTy t
  | .tuple ts => refsTys ts
  | _ => []
def refsTys : List Ty → List String
  | [] => []
  | t :: ts => refsTy t ++ refsTys ts
end

def itemRefs : GItem → List String
  | .alias _ t => refsTy t
  | .struct_ _ fs => refsTys (fs.map (·.2))
  | .enum_ _ vs => refsTys (vs.map (·.2))

/-- one walk of `create_subtype` from the defined names `d` to its result `r`: it defines the names of
its items on top of `d`, none twice, and every type an item mentions -/
def Walk (d : List String) (r : List GItem × List String) : Prop :=
  r.2 = (r.1.map itemName).reverse ++ d ∧ (d.Nodup → r.2.Nodup) ∧ ∀ it ∈ r.1, ∀ x ∈ itemRefs it, x ∈ r.2

theorem Walk.nil (d : List String) : Walk d ([], d) := ⟨rfl, id, fun _ h => absurd h List.not_mem_nil⟩

theorem Walk.mem_names {r : List GItem × List String} (h : Walk [] r) {x : String} :
    x ∈ r.2 ↔ x ∈ r.1.map itemName := by
  rw [h.1]
  simp

theorem Walk.mono {d : List String} {r : List GItem × List String} (h : Walk d r) : ∀ x ∈ d, x ∈ r.2 :=
  fun _ hx => h.1 ▸ List.mem_append_right _ hx

theorem Walk.append {d : List String} {a b : List GItem × List String} (ha : Walk d a) (hb : Walk a.2 b) :
    Walk d (a.1 ++ b.1, b.2) := by
  refine ⟨?_, fun hd => hb.2.1 (ha.2.1 hd), fun it hit x hx => ?_⟩
  · simp only [List.map_append, List.reverse_append, List.append_assoc, ← ha.1, hb.1]
  · rcases List.mem_append.1 hit with hit | hit
    · exact hb.mono x (ha.2.2 it hit x hx)
    · exact hb.2.2 it hit x hx

theorem Walk.define {d : List String} {n : String} {it : GItem} {r : List GItem × List String}
    (hn : ¬ d.contains n = true) (hr : Walk (n :: d) r) (hit : itemName it = n)
    (hrefs : ∀ x ∈ itemRefs it, x ∈ r.2) : Walk d (it :: r.1, r.2) := by
  refine ⟨?_, fun hd => hr.2.1 (List.nodup_cons.2 ⟨by simpa using hn, hd⟩), fun it' hit' x hx => ?_⟩
  · simp only [List.map_cons, List.reverse_cons, List.append_assoc, hit, hr.1, List.singleton_append]
  · rcases List.mem_cons.1 hit' with rfl | hit'
    · exact hrefs x hx
    · exact hr.2.2 it' hit' x hx

theorem refsTy_shapeRepr_named (s : Shape) (h : s.isObject = true ∨ s.isOneOf = true) :
    refsTy (shapeRepr s) = [String.ofList (shapeName s)] := by
  cases s with
  | object c o => cases o <;> rfl
  | oneOf vs o => cases o <;> rfl
  | _ => cases h <;> contradiction

theorem itemRefs_structOf (name : String) (c : Members) :
    itemRefs (structOf name c) = refsTys (shapeReprList (c.map (·.2))) := by
  simp [itemRefs, structOf, shapeReprList_eq, Function.comp_def]

theorem itemRefs_enumOf (name : String) (vs : List Shape) :
    itemRefs (enumOf name vs) = refsTys (shapeReprList vs) := by
  simp [itemRefs, enumOf, shapeReprList_eq, Function.comp_def]

theorem createSubtype_walk :
    (∀ s d, Walk d (createSubtype s d) ∧ ∀ x ∈ refsTy (shapeRepr s), x ∈ (createSubtype s d).2) ∧
    (∀ l d, Walk d (createSubtypeList l d) ∧
      ∀ x ∈ refsTys (shapeReprList l), x ∈ (createSubtypeList l d).2) ∧
    (∀ c d, Walk d (createSubtypeMembers c d) ∧
      ∀ x ∈ refsTys (shapeReprList (c.map (·.2))), x ∈ (createSubtypeMembers c d).2) := by
  apply createSubtype.mutual_induct
  case case1 | case6 =>  -- array, tuple
    intro t o d ih
    simp only [createSubtype]
    exact ⟨ih.1, by cases o <;> exact ih.2⟩
  case case2 =>  -- object, name already defined
    intro c o d name hdef
    simp only [createSubtype, name, hdef, if_true]
    exact ⟨Walk.nil d, by simpa [refsTy_shapeRepr_named (.object c o) (.inl rfl)] using hdef⟩
  case case3 =>  -- object, fresh name
    intro c o d name hdef ih
    simp only [createSubtype, name, hdef]
    exact ⟨ih.1.define hdef rfl (by rw [itemRefs_structOf]; exact ih.2),
      by simpa [refsTy_shapeRepr_named (.object c o) (.inl rfl)] using ih.1.mono _ (List.mem_cons_self ..)⟩
  case case4 =>  -- oneOf, name already defined
    intro vs o d name hdef
    simp only [createSubtype, name, hdef, if_true]
    exact ⟨Walk.nil d, by simpa [refsTy_shapeRepr_named (.oneOf vs o) (.inr rfl)] using hdef⟩
  case case5 =>  -- oneOf, fresh name
    intro vs o d name hdef ih
    simp only [createSubtype, name, hdef]
    exact ⟨ih.1.define hdef rfl (by rw [itemRefs_enumOf]; exact ih.2),
      by simpa [refsTy_shapeRepr_named (.oneOf vs o) (.inr rfl)] using ih.1.mono _ (List.mem_cons_self ..)⟩
  case case7 =>  -- the catch-all equation: it comes with the negations of the four patterns above it
    intro t d h1 h2 h3 h4
    cases t with
    | null => exact ⟨Walk.nil d, fun _ h => absurd h List.not_mem_nil⟩
    | bool o | number o | string o =>
      exact ⟨Walk.nil d, by cases o <;> exact fun _ h => absurd h List.not_mem_nil⟩
    | array t o => exact (h1 t o rfl).elim
    | object c o => exact (h2 c o rfl).elim
    | oneOf vs o => exact (h3 vs o rfl).elim
    | tuple es o => exact (h4 es o rfl).elim
  case case8 | case10 =>  -- members, lists
    exact fun d => ⟨Walk.nil d, fun _ h => absurd h List.not_mem_nil⟩
  case case9 =>
    intro k s l d r ih1 ih2
    simp only [createSubtypeMembers, List.map_cons, shapeReprList, refsTys, List.mem_append]
    exact ⟨ih1.1.append ih2.1, fun x hx => hx.elim (fun h => ih2.1.mono x (ih1.2 x h)) (ih2.2 x)⟩
  case case11 =>
    intro s l d r ih1 ih2
    simp only [createSubtypeList, shapeReprList, refsTys, List.mem_append]
    exact ⟨ih1.1.append ih2.1, fun x hx => hx.elim (fun h => ih2.1.mono x (ih1.2 x h)) (ih2.2 x)⟩

/-- the first two clauses of `Walk`, as `createSubtype_definesOnce_aux` states them -/
def DefinesOnce (r : List GItem × List String) (defined : List String) : Prop :=
  r.2 = (r.1.map itemName).reverse ++ defined ∧ ((r.1.map itemName).reverse ++ defined).Nodup

/-- `createSubtype_walk` for one shape, names only, in the form the documents name (the bound `n` plays no part) -/
theorem createSubtype_definesOnce_aux (n : Nat) :
    (∀ s : Shape, sizeOf s ≤ n → ∀ d : List String, d.Nodup → DefinesOnce (createSubtype s d) d) := by
  intro s _ d hd
  have h := (createSubtype_walk.1 s d).1
  exact ⟨h.1, h.1 ▸ h.2.1 hd⟩

/-- what `createSubtype_walk` says about references, as `createSubtype_covers` states it -/
def Covers (s : Shape) (d : List String) (r : List GItem × List String) : Prop :=
  (∀ x ∈ d, x ∈ r.2) ∧ (∀ x ∈ refsTy (shapeRepr s), x ∈ r.2) ∧ (∀ it ∈ r.1, ∀ x ∈ itemRefs it, x ∈ r.2)

/-- `createSubtype_walk` for one shape, references only, in the form the documents name -/
theorem createSubtype_covers (s : Shape) (d : List String) : Covers s d (createSubtype s d) :=
  have h := createSubtype_walk.1 s d
  ⟨h.1.mono, h.2, h.1.2.2⟩

/-- **defined exactly once**: the struct and enum definitions emitted for any shape have pairwise
distinct names (the D15 repair) -/
theorem defined_once (s : Shape) : ((createSubtype s []).1.map itemName).Nodup := by
  have h := (createSubtype_walk.1 s []).1
  have := h.2.1 List.nodup_nil
  rw [h.1, List.append_nil] at this
  exact (List.pairwise_reverse.1 this).imp Ne.symm

/-- **self-contained**: every named type that occurs in any item of the generated module is the name
of an item of the module, for every shape -/
theorem refs_defined (s : Shape) :
    ∀ it ∈ firstPass s, ∀ x ∈ itemRefs it, x ∈ (firstPass s).map itemName := by
  -- the module is the items of a walk from nothing, behind an alias whose type that walk defined, or alone
  have alias : ∀ (n : String) (t : Ty) (r : List GItem × List String), Walk [] r → (∀ x ∈ refsTy t, x ∈ r.2) →
      ∀ it ∈ GItem.alias n t :: r.1, ∀ x ∈ itemRefs it, x ∈ (GItem.alias n t :: r.1).map itemName := by
    intro n t r hr ht it hit x hx
    refine List.mem_cons_of_mem _ (hr.mem_names.1 ?_)
    rcases List.mem_cons.1 hit with rfl | hit
    · exact ht x hx
    · exact hr.2.2 it hit x hx
  have alone : ∀ s, ∀ it ∈ (createSubtype s []).1, ∀ x ∈ itemRefs it, x ∈ (createSubtype s []).1.map itemName :=
    fun s it hit x hx =>
      have h := (createSubtype_walk.1 s []).1
      h.mem_names.1 (h.2.2 it hit x hx)
  cases s with
  | null => exact alias _ _ _ (Walk.nil []) (fun _ h => absurd h List.not_mem_nil)
  | bool o | number o | string o =>
    cases o <;> exact alias _ _ _ (Walk.nil []) (fun _ h => absurd h List.not_mem_nil)
  | object c o => exact alone _
  | oneOf vs o => exact alone _
  | array t o =>
    have h := createSubtype_walk.1 t []
    exact alias _ _ _ h.1 (by cases o <;> exact h.2)
  | tuple es o =>
    have h := createSubtype_walk.2.1 es []
    exact alias _ _ _ h.1 (by cases o <;> exact h.2)

theorem low_range {c : Char} (h : isLow c = true) : 97 ≤ c.toNat ∧ c.toNat ≤ 122 := by
  simp only [isLow, Bool.and_eq_true, decide_eq_true_eq] at h
  exact ⟨Char.le_def.1 h.1, Char.le_def.1 h.2⟩

theorem low_not_up {c : Char} (h : isLow c = true) : isUp c = false := by
  have hr := low_range h
  simp only [isUp, Bool.and_eq_false_iff, decide_eq_false_iff_not]
  right
  intro hle
  have : c.toNat ≤ 90 := Char.le_def.1 hle
  omega

theorem low_not_dig {c : Char} (h : isLow c = true) : isDig c = false := by
  have hr := low_range h
  simp only [isDig, Bool.and_eq_false_iff, decide_eq_false_iff_not]
  right
  intro hle
  have : c.toNat ≤ 57 := Char.le_def.1 hle
  omega

theorem low_not_delim {a : Char} (h : isLow a = true) : (a == '_' || a == '-' || a == ' ') = false := by
  have hr := low_range h
  simp only [Bool.or_eq_false_iff, beq_eq_false_iff_ne, ne_eq]
  refine ⟨⟨?_, ?_⟩, ?_⟩ <;> (rintro rfl; revert hr; decide)

theorem splitWords_lower : ∀ (cs cur : List Char), (cs.all isLow) = true → splitWords cs cur = [cur.reverse ++ cs]
  | [], cur, _ => by simp [splitWords]
  | [a], cur, h => by
    simp only [List.all_cons, List.all_nil, Bool.and_true] at h
    simp [splitWords, boundaryAt, low_not_delim h]
  | a :: b :: rest, cur, h => by
    obtain ⟨ha, hrest⟩ := Bool.and_eq_true_iff.1 (List.all_cons ▸ h)
    have hb : isLow b = true := (Bool.and_eq_true_iff.1 (List.all_cons ▸ hrest)).1
    have hnone : boundaryAt (a :: b :: rest) = none := by
      simp only [boundaryAt, low_not_delim ha, ha, low_not_up hb, low_not_dig hb, low_not_up ha, low_not_dig ha]
      cases rest <;> simp
    rw [splitWords, hnone]
    simp only []
    rw [splitWords_lower (b :: rest) (a :: cur) hrest]
    simp

theorem toLowerC_lower {c : Char} (h : isLow c = true) : toLowerC c = c := by
  unfold toLowerC
  simp [low_not_up h]

/-- a non-empty name of lower-case ASCII letters is its own snake form -/
theorem toSnake_lower (cs : List Char) (hne : cs ≠ []) (h : (cs.all isLow) = true) : toSnake cs = cs := by
  have hlow : cs.map toLowerC = cs :=
    (List.map_congr_left fun c hc => toLowerC_lower (List.all_eq_true.mp h c hc)).trans (List.map_id cs)
  rw [toSnake, caseWords, if_neg (by simpa using hne), splitWords_lower cs [] h]
  simpa [joinUnderscore] using hlow

theorem badFieldsList_eq : ∀ l, badFieldsList l = l.any badFields :=
  any_of_rec rfl fun _ _ => rfl

theorem badFieldsMembers_eq : ∀ c, badFieldsMembers c = c.any fun kv => badFields kv.2 :=
  any_of_rec rfl fun _ _ => rfl

theorem goodFields_of_named (s : Shape) (hb : badFields s = false) :
    ∀ p ∈ namedSubshapes s, ∀ c o, p.2 = .object c o →
      (c.all fun kv => fieldOk kv.1) = true ∧
        distinctStrings (c.map fun kv => String.ofList (toSnake kv.1.toList)) = true := by
  induction s with
  | null | bool | number | string =>
    intro p hp
    cases hp
  | array t o ih => exact ih hb
  | tuple es o ih =>
    intro p hp
    simp only [badFields, badFieldsList_eq, List.any_eq_false, Bool.not_eq_true] at hb
    obtain ⟨e, he, hp⟩ := mem_namedSubshapesList.1 hp
    exact ih e he (hb e he) p hp
  | oneOf vs o ih =>
    intro p hp c' o' he
    simp only [badFields, badFieldsList_eq, List.any_eq_false, Bool.not_eq_true] at hb
    rcases List.mem_cons.1 hp with rfl | hp
    · cases he
    · obtain ⟨e, hm, hp⟩ := mem_namedSubshapesList.1 hp
      exact ih e hm (hb e hm) p hp c' o' he
  | object c o ih =>
    intro p hp c' o' he
    simp only [badFields, badFieldsMembers_eq, Bool.or_eq_false_iff, Bool.not_eq_false', List.any_eq_false,
      Bool.not_eq_true] at hb
    rcases List.mem_cons.1 hp with rfl | hp
    · cases he
      exact ⟨hb.1.1, hb.1.2⟩
    · obtain ⟨kv, hm, hp⟩ := mem_namedSubshapesMembers.1 hp
      exact ih kv hm (hb.2 kv hm) p hp c' o' he

theorem fieldOk_legal {k : String} (h : fieldOk k = true) :
    legalIdent (String.ofList (toSnake k.toList)) = true := by
  simp only [fieldOk, Bool.and_eq_true, beq_iff_eq] at h
  rw [h.2]
  exact h.1

/-- **legal, distinct field names**: for every shape outside the class D17, every struct of the
generated module has field names that are legal Rust identifiers (not keywords) and pairwise distinct -/
theorem fields_legal (s : Shape) (d : List String) (hb : badFields s = false) :
    ∀ it ∈ (createSubtype s d).1, ∀ n fs, it = .struct_ n fs →
      (∀ f ∈ fs, legalIdent f.1 = true) ∧ distinctStrings (fs.map (·.1)) = true := by
  intro it hit n fs he
  obtain ⟨⟨pn, sub⟩, hp, hpi⟩ := items_from_named s d it hit
  rcases itemOfNamed_eq_some hpi with ⟨c, o, rfl, rfl⟩ | ⟨vs, o, rfl, rfl⟩
  · simp only [structOf, GItem.struct_.injEq] at he
    obtain ⟨rfl, rfl⟩ := he
    obtain ⟨h1, h2⟩ := goodFields_of_named s hb (pn, .object c o) hp c o rfl
    constructor
    · intro f hf
      obtain ⟨kv, hkv, rfl⟩ := List.mem_map.1 hf
      exact fieldOk_legal (List.all_eq_true.mp h1 kv hkv)
    · simpa [List.map_map, Function.comp_def] using h2
  · simp [enumOf] at he

/-- non-vacuity: a shape with lower-case, non-keyword names is outside D17 -/
example : badFields (.object [("id", .number false), ("tags", .array (.object [("name", .string false)] false) true)] false) = false := by
  decide +kernel

end ShapeVerif
