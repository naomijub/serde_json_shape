/-
C16 — The build-time compiler is deterministic and consistent with its include macro.
The file system and `OUT_DIR` are parameters of the model (Model/Build.lean). Every statement about a
request is read off one equation, `compileJson_eq`: the shape the sources compile to (`compiled`) decides
the result and the write; `compiled_isSome_iff` says when there is one.
-/
import ShapeVerif.Model.Gen
import ShapeVerif.Model.Build
import ShapeVerif.Lemmas.FromStrTotal
import ShapeVerif.Props.C04
namespace ShapeVerif
open Shape

/-- where `compile_json` writes (after the D14 repair): `$OUT_DIR/<name>.gen.shape.rs` -/
def outPath (outDir name : String) : String := outDir ++ "/" ++ (name ++ ".gen.shape.rs")

/-- what `include_json_shape!(name)` reads: `concat!(env!("OUT_DIR"), concat!("/", name, ".gen.shape.rs"))` -/
def macroPath (outDir name : String) : String := outDir ++ ("/" ++ name ++ ".gen.shape.rs")

/-- the file is written where the macro reads it, for every collection name (dots included) -/
theorem path_matches (outDir name : String) : outPath outDir name = macroPath outDir name := by
  simp [outPath, macroPath, String.append_assoc]

/-- the binding a successful compilation writes, stated apart from the model (`compileJson` writes to
`targetPath`, which `target_is_macro_path` ties to `macroPath`) -/
def compileWrites (outDir name : String) (s : Shape) : String × String :=
  (outPath outDir name, genHeader ++ generate s)

/-- `compileWrites` read back, with `path_matches`: the clause in the form the checks name -/
theorem file_is_header_plus_text (outDir name : String) (s : Shape) :
    (compileWrites outDir name s).2 = genHeader ++ generate s ∧
    (compileWrites outDir name s).1 = macroPath outDir name :=
  ⟨rfl, path_matches outDir name⟩

/-- congruence of `generate`: equal shapes, equal text -/
theorem compile_deterministic (a b : Shape) (h : a = b) : generate a = generate b := by rw [h]

theorem name_congr (a b : Shape) (h : a = b) : shapeName a = shapeName b := by rw [h]

/-- **known finding D16**: different sub-shapes can receive the same name — the name of an object
hashes its value types only, not its keys -/
theorem name_clash_witness :
    shapeName (.object [("p", .number false)] false) = shapeName (.object [("q", .number false)] false) ∧
    Shape.object [("p", .number false)] false ≠ Shape.object [("q", .number false)] false := by
  constructor
  · simp only [shapeName, namesOfMembers, List.length_cons, List.length_nil]
  · intro h; injection h with h1 _; injection h1 with h2 _; injection h2 with h3 _; exact absurd h3 (by decide)

/-- an object and a union never receive the same name, whatever their flags (the readable prefix
`Struct` / `Enum`) -/
theorem name_prefix_separates (c : Members) (vs : List Shape) (o p : Bool) :
    shapeName (.object c o) ≠ shapeName (.oneOf vs p) := by
  simp only [shapeName, List.append_assoc]
  cases o <;> cases p <;> simp

/-! ### `compile_json` as a state machine over an abstract file system (Model/Build.lean)

Every statement is for an arbitrary prior file system — in particular one in which the target file
already exists with an older output, or in which other collections were compiled before. -/

/-- different collection names are written to different files of the directory -/
theorem targetPath_inj (env : BuildEnv) (n m : String) (h : targetPath env n = targetPath env m) : n = m := by
  unfold targetPath targetFile at h
  exact (String.append_left_inj _).1 ((String.append_right_inj _).1 h)

theorem target_is_macro_path (env : BuildEnv) (name : String) :
    targetPath env name = macroPath (env.outDir.getD env.cwd) name := by
  simp [targetPath, targetFile, macroPath, String.append_assoc]

theorem read_write (fs : FS) (p q c : String) : (fs.write p c).read q = if q = p then some c else fs.read q := by
  simp [FS.write, FS.read, eq_comm]

/-- the shape a request compiles: every path is read and the texts are accepted -/
def compiled (fs : FS) (paths : List String) : Option Shape :=
  (readSources fs paths).bind fun texts =>
    match fromSources (texts.map String.toList) with
    | .ok s => some s
    | _ => none

/-- `compile_json` in one equation: the shape the sources compile to decides the result and the write
(that there is no third case is `entry_points_total`, C05) -/
theorem compileJson_eq (fs : FS) (env : BuildEnv) (name : String) (paths : List String) :
    compileJson fs env name paths =
      match compiled fs paths with
      | some s => (fs.write (targetPath env name) (genHeader ++ generate s), .ok (generate s))
      | none => (fs, .err) := by
  unfold compileJson compiled
  cases readSources fs paths with
  | none => rfl
  | some texts =>
    have := fromSources_ne_panic (texts.map String.toList)
    dsimp only [Option.bind_some]
    cases h : fromSources (texts.map String.toList) <;> first | rfl | exact absurd h this

theorem compiled_isSome_iff (fs : FS) (paths : List String) :
    (∃ s, compiled fs paths = some s) ↔
      ∃ texts, readSources fs paths = some texts ∧ texts ≠ [] ∧ ∀ t ∈ texts, ∃ v, fromStr t.toList = .ok v := by
  have key : ∀ texts : List String, (∃ s, fromSources (texts.map String.toList) = .ok s) ↔
      texts ≠ [] ∧ ∀ t ∈ texts, ∃ v, fromStr t.toList = .ok v := fun texts => by
    rw [sources_iff, ne_eq, List.map_eq_nil_iff, List.forall_mem_map]
  unfold compiled
  cases readSources fs paths with
  | none => exact ⟨nofun, nofun⟩
  | some texts =>
    simp only [Option.bind_some, Option.some.injEq, exists_eq_left', ← key]
    cases fromSources (texts.map String.toList) <;> simp

theorem compile_never_panics (fs : FS) (env : BuildEnv) (name : String) (paths : List String) :
    (compileJson fs env name paths).2 ≠ .panic := by
  rw [compileJson_eq]; split <;> simp

/-- the file system after a request, file by file: only the target can differ, and only after a success -/
theorem compileJson_read (fs : FS) (env : BuildEnv) (name : String) (paths : List String) (p : String) :
    (compileJson fs env name paths).1.read p =
      match (compileJson fs env name paths).2 with
      | .ok t => if p = targetPath env name then some (genHeader ++ t) else fs.read p
      | _ => fs.read p := by
  rw [compileJson_eq]
  split
  · exact read_write ..
  · rfl

/-- **errors are clean**: a request that does not succeed leaves the file system exactly as it was -/
theorem compile_error_leaves_fs (fs fs' : FS) (env : BuildEnv) (name : String) (paths : List String) (out : BuildOut)
    (h : compileJson fs env name paths = (fs', out)) (ho : ∀ t, out ≠ .ok t) : fs' = fs := by
  rw [compileJson_eq] at h
  split at h <;> cases h
  · exact absurd rfl (ho _)
  · rfl

/-- **the file is the returned text**: after a successful request the file the macro reads holds the
header followed by exactly the text that was returned, whatever the directory held before, and no
other file is touched -/
theorem compile_ok_writes (fs fs' : FS) (env : BuildEnv) (name : String) (paths : List String) (t : String)
    (h : compileJson fs env name paths = (fs', .ok t)) :
    fs'.read (macroPath (env.outDir.getD env.cwd) name) = some (genHeader ++ t) ∧
    ∀ p, p ≠ targetPath env name → fs'.read p = fs.read p := by
  have hr := compileJson_read fs env name paths
  simp only [h] at hr
  exact ⟨by rw [← target_is_macro_path, hr, if_pos rfl], fun p hp => by rw [hr, if_neg hp]⟩

theorem compileJson_err {fs : FS} {env : BuildEnv} {name : String} {paths : List String}
    (h : ∀ texts, readSources fs paths = some texts → texts ≠ [] → ¬ ∀ t ∈ texts, ∃ v, fromStr t.toList = .ok v) :
    compileJson fs env name paths = (fs, .err) := by
  rw [compileJson_eq]
  cases hc : compiled fs paths with
  | none => rfl
  | some s =>
    obtain ⟨texts, hr, hne, hall⟩ := (compiled_isSome_iff fs paths).1 ⟨s, hc⟩
    exact absurd hall (h texts hr hne)

theorem compile_rejects_empty (fs : FS) (env : BuildEnv) (name : String) :
    compileJson fs env name [] = (fs, .err) :=
  compileJson_err fun _ hr hne => absurd (Option.some.inj hr).symm hne

theorem readSources_none_of_unreadable (fs : FS) : ∀ (paths : List String) (p : String),
    p ∈ paths → fs.read p = none → readSources fs paths = none
  | [], _ => nofun
  | q :: ps, p => fun hp hn => by
    unfold readSources
    rcases List.mem_cons.mp hp with rfl | hp'
    · rw [hn]
    · rw [readSources_none_of_unreadable fs ps p hp' hn]
      cases fs.read q <;> rfl

theorem compile_rejects_unreadable (fs : FS) (env : BuildEnv) (name : String) (paths : List String) (p : String)
    (hp : p ∈ paths) (hn : fs.read p = none) : compileJson fs env name paths = (fs, .err) :=
  compileJson_err fun _ hr => by cases (readSources_none_of_unreadable fs paths p hp hn).symm.trans hr

theorem compile_rejects_invalid (fs : FS) (env : BuildEnv) (name : String) (paths : List String) (texts : List String)
    (hr : readSources fs paths = some texts) (t : String) (ht : t ∈ texts) (hbad : ∀ v, fromStr t.toList ≠ .ok v) :
    compileJson fs env name paths = (fs, .err) :=
  compileJson_err fun texts' hr' _ hall => by
    cases hr.symm.trans hr'
    obtain ⟨v, hv⟩ := hall t ht
    exact hbad v hv

theorem readSources_congr (fs fs' : FS) : ∀ (paths : List String), (∀ p ∈ paths, fs'.read p = fs.read p) →
    readSources fs' paths = readSources fs paths
  | [] => fun _ => rfl
  | p :: ps => fun h => by
    unfold readSources
    rw [h p (by simp), readSources_congr fs fs' ps (fun q hq => h q (by simp [hq]))]

/-- **compiling twice**: after a successful request, the same request in the resulting file system
returns the same text and changes no file (the target is not one of its own sources) -/
theorem compile_twice (fs fs1 : FS) (env : BuildEnv) (name : String) (paths : List String) (t : String)
    (hsrc : targetPath env name ∉ paths)
    (h : compileJson fs env name paths = (fs1, .ok t)) :
    ∃ fs2, compileJson fs1 env name paths = (fs2, .ok t) ∧ ∀ p, fs2.read p = fs1.read p := by
  have hr := compileJson_read fs env name paths
  simp only [h] at hr
  have hsame : compiled fs1 paths = compiled fs paths := by
    unfold compiled
    rw [readSources_congr fs fs1 paths fun p hp => (hr p).trans (if_neg fun e => hsrc (e ▸ hp : _ ∈ paths))]
  rw [compileJson_eq] at h
  rw [compileJson_eq, hsame]
  split at h <;> cases h
  refine ⟨_, rfl, fun p => ?_⟩
  rw [read_write]
  split
  · rw [hr, if_pos ‹_›]
  · rfl

/-- the text most recently returned for `name` in a history of requests and their results -/
def lastText (name : String) : List BuildOp → List BuildOut → Option String
  | op :: ops, out :: outs =>
    match lastText name ops outs with
    | some t => some t
    | none => if op.name = name then (match out with | .ok t => some t | _ => none) else none
  | _, _ => none

/-- **histories**: after any sequence of requests into one directory (any names, any source lists,
failing requests in between, repeated names), the file of every collection holds the header and
the text returned by the *last successful* request for that name; the file of a name that never
succeeded is what it was before -/
theorem history_file_is_last_text (env : BuildEnv) : ∀ (ops : List BuildOp) (fs : FS) (name : String),
    (runBuild env fs ops).1.read (targetPath env name) =
      match lastText name ops (runBuild env fs ops).2 with
      | some t => some (genHeader ++ t)
      | none => fs.read (targetPath env name)
  | [], fs, name => rfl
  | op :: ops, fs, name => by
    unfold runBuild lastText
    rw [history_file_is_last_text env ops]
    cases lastText name ops (runBuild env (compileJson fs env op.name op.paths).1 ops).2 with
    | some t => rfl
    | none =>
      dsimp only
      rw [compileJson_read]
      cases (compileJson fs env op.name op.paths).2 with
      | ok t =>
        dsimp only
        by_cases hn : op.name = name
        · rw [if_pos hn, hn, if_pos rfl]
        · rw [if_neg hn, if_neg fun e => hn (targetPath_inj env _ _ e).symm]
      | err | panic => rw [ite_self]

/-- **exactly when a request succeeds**: every path is readable, the list is not empty and every text
is accepted by single-source parsing (by `accept_iff`: is a JSON text within the nesting bound without
conflicting member names) — so unreadable, invalid and empty lists are errors, and nothing else is -/
theorem compile_ok_iff (fs : FS) (env : BuildEnv) (name : String) (paths : List String) :
    (∃ t, (compileJson fs env name paths).2 = .ok t) ↔
      ∃ texts, readSources fs paths = some texts ∧ texts ≠ [] ∧ ∀ t ∈ texts, ∃ v, fromStr t.toList = .ok v := by
  rw [← compiled_isSome_iff, compileJson_eq]
  cases compiled fs paths <;> simp

/- Non-vacuity: `fromStr` does not reduce in the kernel (well-founded recursion in the lexer), so no
closed `example` is given; `compile_ok_iff` shows the success hypothesis of `compile_ok_writes` /
`compile_twice` is met exactly by readable non-empty lists of accepted texts, and the driver
evaluates `runBuild` on every `p_c16h` history of the run (e.g. stale target, `1` compiled, a missing
path, `true` compiled ↦ results ok/err/ok and the file holds the `Boolean` alias). -/

end ShapeVerif
