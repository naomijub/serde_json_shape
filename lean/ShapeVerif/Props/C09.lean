/-
C09 — Accumulating sources converges: once a document is among the sources, adding it again any
number of times does not change which documents the shape admits, and the shape itself stops
changing after at most one such addition.
-/
import ShapeVerif.Lemmas.Absorb
import ShapeVerif.Lemmas.Meaning
import ShapeVerif.Props.C03
namespace ShapeVerif
open Shape Std

def mergeRep (a d : Shape) (k : Nat) : Shape := (List.replicate k d).foldl merger a

theorem mergeRep_succ (a d : Shape) (k : Nat) : mergeRep a d (k + 1) = merger (mergeRep a d k) d := by
  unfold mergeRep
  rw [List.replicate_succ', List.foldl_append]
  rfl

theorem mergeRep_zero (a d : Shape) : mergeRep a d 0 = a := rfl

/-- merging a shape that is already a subset: same meaning -/
theorem absorb_meaning_shapes {a d : Shape} (ha : a.wf = true) (hd : d.wf = true)
    (h : isSubset d a = true) : meaningEq (merger a d) a :=
  fun _ => Bool.eq_iff_iff.2 ⟨absorbed_upper ha hd h, fun hx => merger_sound ha hd (Or.inl hx)⟩

theorem mergeRep_props {a d : Shape} (ha : a.wf = true) (hd : d.wf = true) (hpd : d.plain = true)
    (h : isSubset d a = true) : ∀ k,
    (mergeRep a d k).wf = true ∧ isSubset d (mergeRep a d k) = true ∧ meaningEq (mergeRep a d k) a
  | 0 => ⟨ha, h, meaningEq_refl a⟩
  | k + 1 => by
    obtain ⟨w, s, m⟩ := mergeRep_props ha hd hpd h k
    rw [mergeRep_succ]
    exact ⟨merger_wf w hd, newSample hpd w hd, meaningEq_trans (absorb_meaning_shapes w hd s) m⟩

/-- **convergence of the shape**: from the first repetition on, nothing changes any more -/
theorem mergeRep_stable {a d : Shape} (ha : a.wf = true) (hd : d.wf = true) (hpd : d.plain = true)
    (h : isSubset d a = true) : ∀ k, 1 ≤ k → mergeRep a d (k + 1) = mergeRep a d k
  | 0, hk => by omega
  | k + 1, _ => by
    obtain ⟨w, s, _⟩ := mergeRep_props ha hd hpd h k
    rw [mergeRep_succ a d (k + 1), mergeRep_succ a d k]
    exact absorb_stable w hd s

theorem sources_replicate {h : List Doc} {d : Doc} {a sd : Shape}
    (ha : fromSourcesDoc h = .ok a) (hd : inferDoc d = .ok sd) (k : Nat) :
    fromSourcesDoc (h ++ List.replicate k d) = .ok (mergeRep a sd k) := by
  rw [fromSourcesDoc_append ha, inferDocList_replicate hd k]
  rfl

/-- **C09.** For every history `h`, every document `d` of `h` and every `k ≥ 1`:
`from_sources(h ++ [d]*k)` admits exactly the documents `from_sources(h)` admits, and
`from_sources(h ++ [d]*(k+1)) == from_sources(h ++ [d]*k)`. -/
theorem converge (h : List Doc) (d : Doc) (a : Shape) (hd : d ∈ h) (ha : fromSourcesDoc h = .ok a) :
    ∀ k, ∃ sk, fromSourcesDoc (h ++ List.replicate k d) = .ok sk ∧ meaningEq sk a ∧
      (1 ≤ k → fromSourcesDoc (h ++ List.replicate (k + 1) d) = .ok sk) := by
  intro k
  obtain ⟨sd, hsd, hsub⟩ := samples_accepted h a ha d hd
  have haw := fromSourcesDoc_wf ha
  obtain ⟨hdw, hdp⟩ := infer_wf_plain d hsd
  refine ⟨mergeRep a sd k, sources_replicate ha hsd k, (mergeRep_props haw hdw hdp hsub k).2.2, ?_⟩
  intro hk
  rw [sources_replicate ha hsd (k + 1), mergeRep_stable haw hdw hdp hsub k hk]

/-- in particular the size of the shape does not depend on how many times a document is repeated -/
theorem size_independent_of_repetitions (h : List Doc) (d : Doc) (a : Shape) (hd : d ∈ h)
    (ha : fromSourcesDoc h = .ok a) (k : Nat) (hk : 1 ≤ k) :
    fromSourcesDoc (h ++ List.replicate k d) = fromSourcesDoc (h ++ List.replicate 1 d) := by
  obtain ⟨j, rfl⟩ : ∃ j, k = j + 1 := ⟨k - 1, (Nat.sub_add_cancel hk).symm⟩
  induction j with
  | zero => rfl
  | succ j ih =>
    obtain ⟨sk, e1, _, e2⟩ := converge h d a hd ha (j + 1)
    rw [e2 (Nat.le_add_left 1 j), ← e1]
    exact ih (Nat.le_add_left 1 j)

/-- **C09, any re-feeding order.** After a history `h`, feeding *any* sequence `r` of documents that
are already among the sources — in any order, any number of times each, interleaved at will —
succeeds and never changes which documents the shape admits. (The shape itself may still change
between steps when different documents alternate; its meaning does not.) -/
theorem readd_any : ∀ (r h : List Doc) (a : Shape), fromSourcesDoc h = .ok a → (∀ d ∈ r, d ∈ h) →
    ∃ s, fromSourcesDoc (h ++ r) = .ok s ∧ meaningEq s a
  | [] => fun h a ha _ => ⟨a, by rwa [List.append_nil], meaningEq_refl a⟩
  | x :: r => fun h a ha hr => by
    have hx : x ∈ h := hr x (by simp)
    obtain ⟨s1, e1, m1, _⟩ := converge h x a hx ha 1
    have e1' : fromSourcesDoc (h ++ [x]) = .ok s1 := e1
    have hr' : ∀ d ∈ r, d ∈ h ++ [x] := fun d hd =>
      List.mem_append_left _ (hr d (List.mem_cons_of_mem _ hd))
    obtain ⟨s, e, m⟩ := readd_any r (h ++ [x]) s1 e1' hr'
    exact ⟨s, by rwa [List.append_cons], meaningEq_trans m m1⟩

/-- non-vacuity: a two-document history re-fed in alternation -/
example :
    let d1 := Doc.arr [.bool true, .bool false]
    let d2 := Doc.arr [.bool true, .null]
    (∃ a, fromSourcesDoc [d1, d2] = .ok a) ∧ (∀ d ∈ [d2, d1, d2, d1], d ∈ [d1, d2]) := by
  refine ⟨⟨_, rfl⟩, by simp⟩

/-- the D7 witness after the repair: `[1,2]` then `[1,"a"]` repeated — stable from the first repetition -/
example :
    let a := Shape.array (.number false) false
    let d := Shape.tuple [.number false, .string false] false
    mergeRep a d 3 = mergeRep a d 1 := by decide

end ShapeVerif
