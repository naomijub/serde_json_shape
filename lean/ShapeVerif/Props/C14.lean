/-
C14 — Generated types mirror the inferred shape.
`decodeTy env` reads a generated type back into a shape, resolving type names through `env`.
`repr_decodes`: if every named sub-shape's name resolves to that sub-shape (what the definitions
provide unless names clash — known finding D16), the type generated for a shape reads back as that
shape: Number/String/Boolean/Null ↦ f64/String/bool/(), optional ↦ Option, Array ↦ Vec, Tuple ↦ tuple,
Object/OneOf ↦ their named definitions. `definitions_mirror`: every emitted struct/enum is the
definition of a named sub-shape (`items_from_named`) and reads back field by field. The read-back is
recomputed on the real generated text by an independent parser on every run.
-/
import ShapeVerif.Model.Gen
import ShapeVerif.Lemmas.Induction
namespace ShapeVerif
open Shape

mutual
/-- reading a type back; `env` gives the (non-optional) shape a type name stands for -/
def decodeTy (env : String → Option Shape) : Ty → Option Shape
  | .unit => some .null
  | .bool => some (.bool false)
  | .f64 => some (.number false)
  | .string => some (.string false)
  | .option t => (decodeTy env t).map asOptional
  | .vec t => (decodeTy env t).map (fun s => .array s false)
  | .tuple ts => (decodeTys env ts).map (fun es => .tuple es false)
  | .named n => env n
def decodeTys (env : String → Option Shape) : List Ty → Option (List Shape)
  | [] => some []
  | t :: ts =>
    match decodeTy env t, decodeTys env ts with
    | some s, some l => some (s :: l)
    | _, _ => none
end

def Resolves (env : String → Option Shape) (s : Shape) : Prop :=
  ∀ p ∈ namedSubshapes s, env p.1 = some p.2.asNonOptional

theorem asOptional_asNonOptional_of_flag {s : Shape} (h : s.isOptional = true) (hn : s.isNull = false) :
    s.asNonOptional.asOptional = s := by
  cases s <;> first | contradiction | exact congrArg _ h.symm

theorem namedSubshapesList_eq : ∀ l, namedSubshapesList l = l.flatMap namedSubshapes
  | [] => rfl
  | _ :: l => by simp [namedSubshapesList, namedSubshapesList_eq l]

theorem namedSubshapesMembers_eq : ∀ c, namedSubshapesMembers c = c.flatMap fun kv => namedSubshapes kv.2
  | [] => rfl
  | (_, _) :: l => by simp [namedSubshapesMembers, namedSubshapesMembers_eq l]

theorem mem_namedSubshapesList {p : String × Shape} {l : List Shape} :
    p ∈ namedSubshapesList l ↔ ∃ s ∈ l, p ∈ namedSubshapes s := by
  rw [namedSubshapesList_eq, List.mem_flatMap]

theorem mem_namedSubshapesMembers {p : String × Shape} {c : Members} :
    p ∈ namedSubshapesMembers c ↔ ∃ kv ∈ c, p ∈ namedSubshapes kv.2 := by
  rw [namedSubshapesMembers_eq, List.mem_flatMap]

theorem shapeReprList_eq : ∀ l, shapeReprList l = l.map shapeRepr
  | [] => rfl
  | _ :: l => by simp [shapeReprList, shapeReprList_eq l]

theorem decodeTys_map {α : Type} (env : String → Option Shape) (f : α → Shape) : ∀ (l : List α),
    (∀ a ∈ l, decodeTy env (shapeRepr (f a)) = some (f a)) →
    decodeTys env (l.map fun a => shapeRepr (f a)) = some (l.map f)
  | [], _ => rfl
  | a :: l, h => by
    simp only [List.map_cons, decodeTys, h a (by simp),
      decodeTys_map env f l (fun b hb => h b (by simp [hb]))]

/-- **the generated type of a shape reads back as that shape**, given that type names resolve -/
theorem repr_decodes (env : String → Option Shape) (s : Shape) (h : Resolves env s) :
    decodeTy env (shapeRepr s) = some s := by
  induction s with
  | null => rfl
  | bool o | number o | string o => cases o <;> rfl
  | array t o ih =>
    have ht := ih h
    cases o <;> simp [shapeRepr, decodeTy, ht, asOptional, withOptional]
  | tuple es o ih =>
    have hes := decodeTys_map env id es fun e he =>
      ih e he fun p hp => h p (mem_namedSubshapesList.2 ⟨e, he, hp⟩)
    simp only [id, List.map_id] at hes
    cases o <;> simp [shapeRepr, decodeTy, shapeReprList_eq, hes, asOptional, withOptional]
  | object c o | oneOf c o =>
    -- the shape itself is the first of its named sub-shapes
    have hn := h _ List.mem_cons_self
    cases o with
    | false => exact hn
    | true => exact congrArg (Option.map asOptional) hn

/-- shapes without `Object`/`OneOf` parts need no environment at all -/
theorem repr_decodes_nameless (s : Shape) (h : namedSubshapes s = []) :
    decodeTy (fun _ => none) (shapeRepr s) = some s :=
  repr_decodes _ s (by intro p hp; rw [h] at hp; cases hp)

example : decodeTy (fun _ => none)
    (shapeRepr (.tuple [.number true, .array (.tuple [.string false, .null] true) false] true))
    = some (.tuple [.number true, .array (.tuple [.string false, .null] true) false] true) := rfl

def itemOfNamed : String × Shape → Option GItem
  | (n, .object c _) => some (structOf n c)
  | (n, .oneOf vs _) => some (enumOf n vs)
  | _ => none

theorem itemOfNamed_eq_some {n : String} {sub : Shape} {it : GItem} (h : itemOfNamed (n, sub) = some it) :
    (∃ c o, sub = .object c o ∧ it = structOf n c) ∨ (∃ vs o, sub = .oneOf vs o ∧ it = enumOf n vs) := by
  cases sub with
  | object c o => exact .inl ⟨c, o, rfl, (Option.some.inj h).symm⟩
  | oneOf vs o => exact .inr ⟨vs, o, rfl, (Option.some.inj h).symm⟩
  | _ => cases h

theorem items_from_named_all :
    (∀ s d, ∀ it ∈ (createSubtype s d).1, ∃ p ∈ namedSubshapes s, itemOfNamed p = some it) ∧
    (∀ l d, ∀ it ∈ (createSubtypeList l d).1, ∃ p ∈ namedSubshapesList l, itemOfNamed p = some it) ∧
    (∀ c d, ∀ it ∈ (createSubtypeMembers c d).1, ∃ p ∈ namedSubshapesMembers c, itemOfNamed p = some it) := by
  apply createSubtype.mutual_induct
  case case1 | case6 =>  -- array, tuple
    exact fun _ _ _ ih => ih
  case case2 | case4 =>  -- object, oneOf: name already defined
    intro c o d name hdef it hit
    simp only [createSubtype, name, hdef, if_true] at hit
    cases hit
  case case3 | case5 =>  -- object, oneOf: fresh name
    intro c o d name hdef ih it hit
    simp only [createSubtype, name, hdef, Bool.false_eq_true, if_false, List.mem_cons] at hit
    simp only [namedSubshapes, List.mem_cons, exists_eq_or_imp]
    exact hit.imp (fun e => by rw [e]; rfl) (ih it)
  case case7 =>  -- the catch-all equation: it comes with the negations of the four patterns above it
    intro t d h1 h2 h3 h4 it hit
    cases t with
    | array t o => exact (h1 t o rfl).elim
    | object c o => exact (h2 c o rfl).elim
    | oneOf vs o => exact (h3 vs o rfl).elim
    | tuple es o => exact (h4 es o rfl).elim
    | _ => exact absurd hit List.not_mem_nil
  case case8 | case10 =>  -- members, lists
    intro d it hit
    exact absurd hit List.not_mem_nil
  case case9 =>
    intro k s l d r ih1 ih2 it hit
    simp only [createSubtypeMembers, List.mem_append] at hit
    simp only [namedSubshapesMembers, List.mem_append, or_and_right, exists_or]
    exact hit.imp (ih1 it) (ih2 it)
  case case11 =>
    intro s l d r ih1 ih2 it hit
    simp only [createSubtypeList, List.mem_append] at hit
    simp only [namedSubshapesList, List.mem_append, or_and_right, exists_or]
    exact hit.imp (ih1 it) (ih2 it)

/-- every struct/enum of the module is the definition of one of the shape's named sub-shapes -/
theorem items_from_named (s : Shape) (d : List String) :
    ∀ it ∈ (createSubtype s d).1, ∃ p ∈ namedSubshapes s, itemOfNamed p = some it :=
  items_from_named_all.1 s d

theorem namedSubshapes_trans (s : Shape) : ∀ q ∈ namedSubshapes s, ∀ p ∈ namedSubshapes q.2, p ∈ namedSubshapes s := by
  induction s with
  | null | bool | number | string =>
    intro q hq
    cases hq
  | array t o ih => exact ih
  | tuple es o ih =>
    intro q hq p hp
    simp only [namedSubshapes, mem_namedSubshapesList] at hq ⊢
    obtain ⟨e, he, hq⟩ := hq
    exact ⟨e, he, ih e he q hq p hp⟩
  | oneOf c o ih | object c o ih =>
    intro q hq p hp
    rcases List.mem_cons.1 hq with rfl | hq
    · exact hp
    · simp only [namedSubshapes, List.mem_cons, mem_namedSubshapesList, mem_namedSubshapesMembers] at hq ⊢
      obtain ⟨e, he, hq⟩ := hq
      exact .inr ⟨e, he, ih e he q hq p hp⟩

/-- **the definitions mirror the shape**: under a resolver that maps every type name of the module to
the sub-shape it was generated for (it exists exactly when names do not clash — known finding D16),
every struct of the module has one field per member of its object shape, named by the snake form of
the member name and typed so that it reads back as the member's shape, in order; every enum has one
single-field variant per variant shape, reading back as that variant, in order. -/
theorem definitions_mirror (s : Shape) (env : String → Option Shape) (hr : Resolves env s) (d : List String) :
    ∀ it ∈ (createSubtype s d).1,
      (∀ n fs, it = .struct_ n fs → ∃ c o, (n, Shape.object c o) ∈ namedSubshapes s ∧
          fs.map (·.1) = c.map (fun kv => String.ofList (toSnake kv.1.toList)) ∧
          decodeTys env (fs.map (·.2)) = some (c.map (·.2))) ∧
      (∀ n vs', it = .enum_ n vs' → ∃ vs o, (n, Shape.oneOf vs o) ∈ namedSubshapes s ∧
          decodeTys env (vs'.map (·.2)) = some vs) := by
  intro it hit
  obtain ⟨⟨n, sub⟩, hp, hpi⟩ := items_from_named s d it hit
  have hsub : Resolves env sub := fun q hq => hr q (namedSubshapes_trans s (n, sub) hp q hq)
  rcases itemOfNamed_eq_some hpi with ⟨c, o, rfl, rfl⟩ | ⟨vs, o, rfl, rfl⟩
  · refine ⟨?_, by intro n' vs' h; simp [structOf] at h⟩
    intro n' fs h
    simp only [structOf, GItem.struct_.injEq] at h
    obtain ⟨rfl, rfl⟩ := h
    refine ⟨c, o, hp, by simp [List.map_map, Function.comp_def], ?_⟩
    simp only [List.map_map, Function.comp_def]
    exact decodeTys_map env (·.2) c fun kv hkv => repr_decodes env kv.2 fun q hq =>
      hsub q (List.mem_cons_of_mem _ (mem_namedSubshapesMembers.2 ⟨kv, hkv, hq⟩))
  · refine ⟨by intro n' fs h; simp [enumOf] at h, ?_⟩
    intro n' vs' h
    simp only [enumOf, GItem.enum_.injEq] at h
    obtain ⟨rfl, rfl⟩ := h
    refine ⟨vs, o, hp, ?_⟩
    simp only [List.map_map, Function.comp_def]
    simpa using decodeTys_map env id vs fun v hv => repr_decodes env v fun q hq =>
      hsub q (List.mem_cons_of_mem _ (mem_namedSubshapesList.2 ⟨v, hv, hq⟩))

/-- the resolver read off the shape: a type name stands for the first named sub-shape carrying it -/
def envOf (s : Shape) : String → Option Shape :=
  fun n => ((namedSubshapes s).find? (fun p => p.1 == n)).map (·.2.asNonOptional)

/-- no two named sub-shapes with different structure share a type name (the complement of D16) -/
def NoClash (s : Shape) : Prop :=
  ∀ p ∈ namedSubshapes s, ∀ q ∈ namedSubshapes s, p.1 = q.1 → p.2.asNonOptional = q.2.asNonOptional

theorem resolver_exists (s : Shape) (h : NoClash s) : Resolves (envOf s) s := by
  intro p hp
  unfold envOf
  cases hf : (namedSubshapes s).find? (fun q => q.1 == p.1) with
  | none => exact absurd (beq_iff_eq.2 rfl) (List.find?_eq_none.1 hf p hp)
  | some q =>
    have hq := List.mem_of_find?_eq_some hf
    have hqe : q.1 = p.1 := by simpa using List.find?_some hf
    simp only [Option.map_some]
    rw [h q hq p hp hqe]

/-- **C14 assembled**: when type names do not clash, the root type reads back as the inferred shape
and every definition mirrors its sub-shape, all with respect to one resolver read off the shape -/
theorem generated_types_mirror (s : Shape) (h : NoClash s) :
    decodeTy (envOf s) (shapeRepr s) = some s ∧
    ∀ it ∈ (createSubtype s []).1,
      (∀ n fs, it = .struct_ n fs → ∃ c o, (n, Shape.object c o) ∈ namedSubshapes s ∧
          fs.map (·.1) = c.map (fun kv => String.ofList (toSnake kv.1.toList)) ∧
          decodeTys (envOf s) (fs.map (·.2)) = some (c.map (·.2))) ∧
      (∀ n vs', it = .enum_ n vs' → ∃ vs o, (n, Shape.oneOf vs o) ∈ namedSubshapes s ∧
          decodeTys (envOf s) (vs'.map (·.2)) = some vs) :=
  ⟨repr_decodes _ s (resolver_exists s h), definitions_mirror s _ (resolver_exists s h) []⟩

example : NoClash (.object [("a", .number false), ("b", .object [("c", .string true)] true)] false) := by
  intro p hp q hq
  simp [namedSubshapes, namedSubshapesMembers] at hp hq
  have hne : shapeName (.object [("a", .number false), ("b", .object [("c", .string true)] true)] false) ≠
      shapeName (.object [("c", .string true)] true) := fun h => by
    have := congrArg List.head? h
    simp [shapeName] at this
  rcases hp with rfl | rfl <;> rcases hq with rfl | rfl
  · exact fun _ => rfl
  · exact fun h => absurd (String.ofList_inj.1 h) hne
  · exact fun h => absurd (String.ofList_inj.1 h).symm hne
  · exact fun _ => rfl

end ShapeVerif
