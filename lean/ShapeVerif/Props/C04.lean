/-
C04 — Parsing accepts exactly the JSON language. `accept_iff`: `from_str` returns a shape exactly for
the texts that are JSON per RFC 8259 (`JsonTextVia`), keep at most 256 brackets open (`depthOk`) and
whose document has no member name repeated with conflicting value shapes (`inferDoc` succeeds), and
the shape is `inferDoc` of that document. Its halves are `accepted_is_json` and `json_is_inferred`;
both go through the silent front end (Lemmas/AcceptSound.lean). The other entry points follow
`from_str`: `sources_iff`, `checked_iff`, `unchecked_false`.
-/
import ShapeVerif.Lemmas.AcceptSound
import ShapeVerif.Lemmas.LexLoopComplete
import ShapeVerif.Lemmas.ParseComplete
import ShapeVerif.Lemmas.GrammarDet
namespace ShapeVerif
open Shape

/-- **soundness of acceptance** (all strings): if `from_str` returns a shape, the text is cut by the
lexer's own tokens into RFC 8259 lexemes whose non-whitespace part derives `value` in the RFC's
token grammar, no prefix has more than 256 brackets open, and the shape is `inferDoc` of the derived
document (so no member name is repeated with conflicting value shapes) -/
theorem accepted_is_json (src : List Char) (s : Shape) (h : fromStr src = .ok s) :
    ∃ toks d, JsonTextVia src toks d ∧ depthOk (toks.map (·.kind)) = true ∧ inferDoc d = .ok s := by
  obtain ⟨hlex, d, htv, hinf⟩ := accept_sound src s h
  obtain ⟨htiles, hdepth⟩ := tokenize_sound src hlex
  exact ⟨(tokenize src).tokens, d, ⟨htiles, htv⟩, hdepth, hinf⟩

theorem sources_accepted_are_json (srcs : List (List Char)) (s : Shape) (h : fromSources srcs = .ok s) :
    ∀ t ∈ srcs, ∃ toks d v, JsonTextVia t toks d ∧ depthOk (toks.map (·.kind)) = true ∧ inferDoc d = .ok v := by
  intro t ht
  obtain ⟨v, hv⟩ := sources_accept srcs s h t ht
  obtain ⟨toks, d, h1, h2, h3⟩ := accepted_is_json t v hv
  exact ⟨toks, d, v, h1, h2, h3⟩

theorem checked_ok_is_json (sh : Shape) (src : List Char) (b : Bool) (h : isSupersetChecked sh src = .ok b) :
    ∃ toks d v, JsonTextVia src toks d ∧ depthOk (toks.map (·.kind)) = true ∧ inferDoc d = .ok v := by
  unfold isSupersetChecked at h
  cases hf : fromStr src with
  | ok v =>
    obtain ⟨toks, d, h1, h2, h3⟩ := accepted_is_json src v hf
    exact ⟨toks, d, v, h1, h2, h3⟩
  | err e => simp [hf] at h
  | panic => simp [hf] at h

theorem depthFrom_sig : ∀ (l : List Token) (n : Int), depthFrom n (l.map (·.kind)) = true →
    depthFrom n ((sig l).map (·.kind)) = true
  | [], _, _ => rfl
  | t :: l, n, h => by
    rw [List.map_cons, depthFrom_cons, Bool.and_eq_true] at h
    by_cases hsk : isSkipTok t.kind = true
    · rw [bump_of_skip hsk] at h
      rw [sig_cons_skip hsk]
      exact depthFrom_sig l n h.2
    · rw [sig_cons_keep (by simpa using hsk), List.map_cons, depthFrom_cons, Bool.and_eq_true]
      exact ⟨h.1, depthFrom_sig l _ h.2⟩

/-- **completeness**: on a JSON text within the depth bound `from_str` answers what `inferDoc` says
about its document -/
theorem json_is_inferred (src : List Char) (toks : List Token) (d : Doc) (h : JsonTextVia src toks d)
    (hdepth : depthOk (toks.map (·.kind)) = true) : fromStr src = liftS (inferDoc d) := by
  obtain ⟨htiles, htv⟩ := h
  have htv' : TValue (keyOf src) (sig toks) d := htv
  have hsp := spell_of_tiles toks 0 src htiles
  have hne : src ≠ [] := by
    rintro rfl
    obtain ⟨t, tl, e, _⟩ := first_of_value htv'
    rw [e] at hsp
    cases spell_nil hsp
  -- the lexer returns the grammar's tokens and no diagnostic
  have hadj : adjOk (sig toks) = true := by
    simpa using value_adj htv' [] rfl (by intro b tl e; cases e)
  obtain ⟨ts, ds, hrun, e⟩ := tokenize_run src
  obtain ⟨rfl, hsig⟩ := hrun.complete (sig toks) hsp hadj (by decide) (depthFrom_sig toks 0 hdepth)
  have hlexd : (tokenize src).diags = [] := by rw [e]
  have htoks : (tokenize src).tokens = ts := by rw [e]
  -- the parser reports nothing on them and stops at the end of the input
  obtain ⟨_, hclean, hk0, hsig0, hfuel⟩ := clean_start src hne hlexd
  have hdone := (rules_complete src (keyOf src) _).1 _ (sig toks) [] d hclean hk0 hfuel
    (by rw [hsig0, htoks, hsig, List.append_nil]) htv'
  obtain ⟨hsilent, d', htv2, hroot⟩ :=
    silent_run src hne hlexd rfl hdone.1 (fun hc => current_of_sig_nil hc hdone.2)
  -- the root evaluates to `inferDoc` of the one document the tokens derive
  rw [htoks, hsig] at htv2
  obtain rfl : d' = d := tvalue_unique htv2 htv'
  unfold fromStr
  simp only [hroot, hsilent, rejectDiagnostics]
  cases inferDoc d' <;> rfl

/-- **C04, exact statement.** `from_str` returns a shape exactly for the texts that are JSON per
RFC 8259 (some cut into valid lexemes whose tokens derive `value`), keep at most 256 brackets open,
and whose document `inferDoc` accepts (no member name repeated with conflicting value shapes); and
then the shape is `inferDoc` of that document. -/
theorem accept_iff (src : List Char) (s : Shape) :
    fromStr src = .ok s ↔
      ∃ toks d, JsonTextVia src toks d ∧ depthOk (toks.map (·.kind)) = true ∧ inferDoc d = .ok s := by
  constructor
  · exact accepted_is_json src s
  · rintro ⟨toks, d, h1, h2, h3⟩
    exact json_is_inferred src toks d h1 h2 ▸ liftS_eq_ok.2 h3

/-- a JSON text within the depth bound is rejected only for a conflicting duplicate member name -/
theorem json_rejected_only_for_conflict (src : List Char) (toks : List Token) (d : Doc)
    (h : JsonTextVia src toks d) (hdepth : depthOk (toks.map (·.kind)) = true) (e : PErr)
    (hr : fromStr src = .err e) : ∃ ie, inferDoc d = .error ie ∧ e = inferErrToPErr ie :=
  liftS_eq_err.1 (json_is_inferred src toks d h hdepth ▸ hr)

theorem sources_iff (srcs : List (List Char)) :
    (∃ s, fromSources srcs = .ok s) ↔ srcs ≠ [] ∧ ∀ t ∈ srcs, ∃ v, fromStr t = .ok v := by
  constructor
  · rintro ⟨s, h⟩
    refine ⟨?_, sources_accept srcs s h⟩
    rintro rfl
    simp [fromSources, fromSources.go, merge] at h
  · rintro ⟨hne, hall⟩
    rcases fromSources_cases srcs with ⟨vs, h1, h2⟩ | ⟨t, ht, h1, _⟩
    · cases vs with
      | nil => exact absurd (List.map_eq_nil_iff.1 h1) hne
      | cons v vs => exact ⟨_, h2⟩
    · obtain ⟨v, hv⟩ := hall t ht
      exact absurd hv (h1 v)

theorem unchecked_false (s : Shape) (src : List Char) (e : PErr) (h : fromStr src = .err e) :
    isSuperset s src = .ok false := by
  simp [isSuperset, h]

theorem checked_iff (s : Shape) (src : List Char) (e : PErr) :
    isSupersetChecked s src = .err e ↔ fromStr src = .err e := by
  unfold isSupersetChecked
  cases fromStr src <;> simp

end ShapeVerif
