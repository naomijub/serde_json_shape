/-
C10 — Subset is reflexive and respects optional widening; `similar` is what it says.
All statements are for every shape (any constructor, both flags, any nesting). `wf` (strictly
sorted maps/sets — what `BTreeMap`/`BTreeSet` guarantee) is needed only where an object is looked up
by key.
-/
import ShapeVerif.Lemmas.SubsetOrder
namespace ShapeVerif
open Shape

/-- Every shape is a subset of itself. -/
theorem subset_refl : ∀ (s : Shape), s.wf = true → isSubset s s = true := by
  intro s hw
  induction s using Shape.indAtom with
  | atom s hs => simp [sub_atom hs]
  | array t o ih => simp [sub_array, ih hw]
  | tuple es o ih =>
    rw [wf_tuple_iff] at hw
    exact sub_tuple_tuple_iff.2 ⟨id, .refl fun e he => ih e he (hw e he)⟩
  | object c o ih =>
    rw [wf_object_iff] at hw
    rw [sub_object_object, Bool.not_or_self, Bool.true_and, objSub_iff]
    exact ⟨fun k v hkv => .inl (mapContainsKey_iff.2 ⟨v, hkv⟩),
      fun k v hkv => ⟨v, mapGet_eq_some_of_mem hw.1 hkv, ih _ hkv (hw.2 _ hkv)⟩⟩
  | oneOf vs o =>
    have : setIsSubset vs vs = true := setIsSubset_iff.2 fun _ hx => hx
    simp [sub_oneOf, this]

/-- `subset_refl` for the elements of a tuple, through the model's `zipAllSubset`; kept under its own name -/
theorem zipAll_refl : ∀ (es : List Shape), wfList es = true → zipAllSubset es es = true :=
  fun es h => by
    have := zipAllSubset_iff.2 (Pointwise.refl fun e he => subset_refl e (wfList_iff.1 h e he))
    exact (Bool.and_eq_true _ _ ▸ this).1

/-- `subset_refl` for the members of an object, through the model's `lookupSubset`; kept under its own name -/
theorem members_refl : ∀ (c : Members), sortedKeys c = true → wfMembers c = true →
    ∀ kv ∈ c, lookupSubset kv.1 kv.2 c = true := fun c hs hw kv hkv => by
  rw [lookupSubset_eq_mapGet, mapGet_eq_some_of_mem hs hkv]
  exact subset_refl _ (wfMembers_iff.1 hw kv hkv)

theorem subset_withOptional (s : Shape) (q : Bool) (hw : s.wf = true)
    (hq : s.isOptional = true → q = true) : isSubset s (withOptional q s) = true :=
  sub_withOptional_right (subset_refl s hw) hq

/-- Every shape is a subset of its own optional form. -/
theorem subset_as_optional (s : Shape) (hw : s.wf = true) : isSubset s s.asOptional = true :=
  subset_withOptional s true hw (fun _ => rfl)

/-- `null` is a subset of every optional shape. -/
theorem null_subset_optional (s : Shape) (h : s.isOptional = true) : isSubset .null s = true := by
  rw [null_sub]
  exact nullableSyn_of_isOptional h

theorem similar_eq_some {a b c : Shape} (h : Shape.similar a b = some c) :
    b = withOptional b.isOptional a ∧ c = withOptional (a.isOptional || b.isOptional) a := by
  unfold Shape.similar at h
  split at h
  case h_1 | h_2 | h_3 | h_4 =>  -- `Null` and the scalars
    cases h
    exact ⟨rfl, rfl⟩
  case h_5 | h_6 | h_7 | h_8 =>  -- the guarded arms: the guard is an equation between the parts
    split at h
    · rename_i he
      simp only [beq_iff_eq, cmp_eq_iff, cmpMembers_eq_iff, cmpList_eq_iff] at he
      cases h
      cases he
      exact ⟨rfl, rfl⟩
    · cases h
  case h_9 => cases h

theorem similar_withOptional (a : Shape) (o p : Bool) :
    Shape.similar (withOptional o a) (withOptional p a) = some (withOptional (o || p) a) := by
  cases a <;> simp [Shape.similar, withOptional, cmp_refl, cmpMembers_refl, cmpList_refl]

/-- What `similar` returns: equal to both inputs up to the top-level flag, optional exactly when
either input is, symmetric, and a superset of both inputs. -/
theorem similar_spec (a b c : Shape) (ha : a.wf = true) (hb : b.wf = true)
    (h : Shape.similar a b = some c) :
    c.asNonOptional = a.asNonOptional ∧ c.asNonOptional = b.asNonOptional ∧
    c.isOptional = (a.isOptional || b.isOptional) ∧
    Shape.similar b a = some c ∧ isSubset a c = true ∧ isSubset b c = true := by
  obtain ⟨hba, rfl⟩ := similar_eq_some h
  have hcb : withOptional (a.isOptional || b.isOptional) a = withOptional (a.isOptional || b.isOptional) b := by
    rw [hba, withOptional_withOptional]
  refine ⟨withOptional_withOptional .., ?_, ?_, ?_, ?_, ?_⟩
  · rw [hcb]
    exact withOptional_withOptional ..
  · rw [isOptional_withOptional]
    cases a with
    | null => rfl
    | _ => exact Bool.or_false _
  · have := similar_withOptional a b.isOptional a.isOptional
    rwa [← hba, withOptional_self, Bool.or_comm] at this
  · exact subset_withOptional a _ ha fun h => by rw [h]; rfl
  · rw [hcb]
    exact subset_withOptional b _ hb fun h => by rw [h, Bool.or_true]

/-- non-vacuity: `similar` does answer `some` on non-trivial, well-formed inputs -/
example : Shape.similar (.array (.oneOf [.number false, .string false] false) false)
      (.array (.oneOf [.number false, .string false] false) true)
    = some (.array (.oneOf [.number false, .string false] false) true) := by decide

example : (Shape.object [("a", .number true), ("b", .oneOf [.null, .string false] false)] true).wf = true := by
  decide

end ShapeVerif
