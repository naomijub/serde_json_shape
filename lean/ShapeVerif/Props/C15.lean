/-
C15 — Generated types deserialize the documents they were generated from, and write them back, in the
model of serde's derive (Model/Derive.lean; trusted, validated against the real serde on compiled batches).
`serdeAccepts s d`: would `from_str::<T>` succeed on `d`, `T` generated for `s` (a model over the shape:
field names are taken to be the member names, so D17 is left out); `serdeBack s d`: what
`to_value(&from_str::<T>(d)?)` returns; `backEq`: the equality the property names. Without `OneOf`
(known finding D18), empty objects (D19) and `Null`-typed members (D23) every admitted document
without repeated member names is written back `backEq` to itself (`admits_roundtrips`); the two models
agree on acceptance (`serdeBack_accepts`), so being read (`admits_deserializes`) is a corollary. Each
exclusion has a proved witness; `sources_deserialize` composes with C01.
-/
import ShapeVerif.Lemmas.Admits
import ShapeVerif.Lemmas.Induction
import ShapeVerif.Model.Derive
import ShapeVerif.Props.C01
namespace ShapeVerif
open Shape

theorem getDocMember_mem {k : String} {v : Doc} : ∀ {ms : List (String × Doc)}, getDocMember k ms = some v →
    (k, v) ∈ ms
  | [], h => by simp [getDocMember] at h
  | (k', v') :: l, h => by
    simp only [getDocMember] at h
    split at h
    · rename_i hk
      cases h
      rw [beq_iff_eq.1 hk]
      exact List.mem_cons_self ..
    · exact List.mem_cons_of_mem _ (getDocMember_mem h)

theorem hasDocMember_eq (k : String) : ∀ ms, hasDocMember k ms = (getDocMember k ms).isSome
  | [] => rfl
  | (k', _) :: l => by
    rw [hasDocMember, List.any_cons, getDocMember, ← hasDocMember, hasDocMember_eq k l]
    cases k' == k <;> rfl

theorem getDocMember_of_mem : ∀ {ms : List (String × Doc)} {k : String} {v : Doc},
    docKeysDistinct ms = true → (k, v) ∈ ms → getDocMember k ms = some v
  | [], _, _ => fun _ h => by cases h
  | (k0, v0) :: ms, k, v => fun hd h => by
    simp only [docKeysDistinct, Bool.and_eq_true, Bool.not_eq_true', List.any_eq_false] at hd
    rcases List.mem_cons.1 h with e | h
    · cases e; exact if_pos (beq_iff_eq.2 rfl)
    · have hne : (k0 == k) = false := beq_false_of_ne fun e => hd.1 (k, v) h (beq_iff_eq.2 e.symm)
      simp only [getDocMember, hne, Bool.false_eq_true, if_false]
      exact getDocMember_of_mem hd.2 h

theorem docNoDupL_iff {xs : List Doc} : docNoDupL xs = true ↔ ∀ x ∈ xs, docNoDup x = true := by
  rw [all_of_rec (f := docNoDupL) rfl (fun _ _ => rfl), List.all_eq_true]

theorem docNoDupM_iff {ms : List (String × Doc)} : docNoDupM ms = true ↔ ∀ kv ∈ ms, docNoDup kv.2 = true := by
  rw [all_of_rec (f := docNoDupM) (p := (docNoDup ·.2)) rfl (fun _ _ => rfl), List.all_eq_true]

/-- well-formed, no `OneOf` (D18), no empty object (D19), no `Null`-typed member (D23) -/
def Derivable (s : Shape) : Prop :=
  s.wf = true ∧ hasOneOf s = false ∧ hasEmptyObject s = false ∧ noNullMembers s = true

theorem hasOneOfList_eq : ∀ l, hasOneOfList l = l.any hasOneOf :=
  any_of_rec rfl fun _ _ => rfl
theorem hasOneOfMembers_eq : ∀ c, hasOneOfMembers c = c.any fun kv => hasOneOf kv.2 :=
  any_of_rec rfl fun _ _ => rfl
theorem hasEmptyObjectList_eq : ∀ l, hasEmptyObjectList l = l.any hasEmptyObject :=
  any_of_rec rfl fun _ _ => rfl
theorem hasEmptyObjectMembers_eq : ∀ c, hasEmptyObjectMembers c = c.any fun kv => hasEmptyObject kv.2 :=
  any_of_rec rfl fun _ _ => rfl
theorem noNullMembersL_eq : ∀ l, noNullMembersL l = l.all noNullMembers :=
  all_of_rec rfl fun _ _ => rfl
theorem noNullMembersM_eq : ∀ c, noNullMembersM c = c.all fun kv => !kv.2.isNull && noNullMembers kv.2 :=
  all_of_rec rfl fun _ _ => rfl

theorem Derivable.not_oneOf {vs : List Shape} {o : Bool} : ¬ Derivable (.oneOf vs o) :=
  fun h => by
    have := h.2.1
    simp [hasOneOf] at this

theorem Derivable.tuple {es : List Shape} {o : Bool} (h : Derivable (.tuple es o)) : ∀ e ∈ es, Derivable e := by
  obtain ⟨h1, h2, h3, h4⟩ := h
  simp only [hasOneOf, hasEmptyObject, noNullMembers, hasOneOfList_eq, hasEmptyObjectList_eq,
    noNullMembersL_eq, List.any_eq_false, List.all_eq_true, Bool.not_eq_true] at h2 h3 h4
  exact fun e he => ⟨wfList_iff.1 h1 e he, h2 e he, h3 e he, h4 e he⟩

theorem Derivable.object {c : Members} {o : Bool} (h : Derivable (.object c o)) :
    sortedKeys c = true ∧ c.isEmpty = false ∧ ∀ kv ∈ c, kv.2.isNull = false ∧ Derivable kv.2 := by
  obtain ⟨h1, h2, h3, h4⟩ := h
  simp only [Shape.wf, Bool.and_eq_true] at h1
  simp only [hasOneOf, hasEmptyObject, noNullMembers, hasOneOfMembers_eq, hasEmptyObjectMembers_eq,
    noNullMembersM_eq, List.any_eq_false, List.all_eq_true, Bool.not_eq_true, Bool.or_eq_false_iff,
    Bool.and_eq_true, Bool.not_eq_true'] at h2 h3 h4
  exact ⟨h1.1, h3.1, fun kv hkv => ⟨(h4 kv hkv).1, wfMembers_iff.1 h1.2 kv hkv, h2 kv hkv, h3.2 kv hkv, (h4 kv hkv).2⟩⟩

theorem isOptional_of_admits_null {s : Shape} (h : admits s .null = true) (ho : hasOneOf s = false) :
    s.isOptional = true := by
  rw [← admits_null_eq_isOptional, h]
  cases s with
  | oneOf => cases ho
  | _ => rfl

/-- what field `k` of shape `s` comes back as: the member's value read and written back, or `null` when `ms` lacks it -/
def FieldBack (ms : List (String × Doc)) (k : String) (s : Shape) (w : Doc) : Prop :=
  match getDocMember k ms with
  | some v => serdeBack s v = some w
  | none => w = .null

/-- `serdeBackFields` field by field: every field of `c` comes back (`FieldBack`), and nothing comes back that
is not a field of `c` -/
theorem serdeBackFields_spec : ∀ {c : Members} {ms bs : List (String × Doc)}, sortedKeys c = true →
    serdeBackFields c ms = some bs →
    (∀ k s, (k, s) ∈ c → ∃ w, getDocMember k bs = some w ∧ FieldBack ms k s w) ∧
    (∀ kw ∈ bs, ∃ s, (kw.1, s) ∈ c ∧ FieldBack ms kw.1 s kw.2)
  | [], ms, bs, _, h => by
    cases h
    exact ⟨fun _ _ h => absurd h List.not_mem_nil, fun _ h => absurd h List.not_mem_nil⟩
  | (k0, s0) :: c, ms, bs, hs, h => by
    unfold serdeBackFields at h
    split at h
    · rename_i w rest hw hrest
      simp only [Option.some.injEq] at h
      subst h
      have hs' : sortedKeys c = true := sortedKeys_tail hs
      obtain ⟨ih1, ih2⟩ := serdeBackFields_spec hs' hrest
      have hfb : FieldBack ms k0 s0 w := by
        unfold FieldBack
        cases hg : getDocMember k0 ms with
        | some v => simpa [hg] using hw
        | none =>
          simp only [hg] at hw
          split at hw
          · cases hw
            rfl
          · cases hw
      constructor
      · intro k s hm
        rcases List.mem_cons.1 hm with e | hm
        · cases e
          exact ⟨w, if_pos (beq_iff_eq.2 rfl), hfb⟩
        · have hne : k ≠ k0 := sortedKeys_head_ne hs (k, s) hm
          obtain ⟨w', hw1, hw2⟩ := ih1 k s hm
          refine ⟨w', ?_, hw2⟩
          have : (k0 == k) = false := beq_false_of_ne hne.symm
          simpa [getDocMember, this] using hw1
      · intro kw hkw
        rcases List.mem_cons.1 hkw with e | hkw
        · subst e
          exact ⟨s0, List.mem_cons_self .., hfb⟩
        · obtain ⟨s, hs1, hs2⟩ := ih2 kw hkw
          exact ⟨s, List.mem_cons_of_mem _ hs1, hs2⟩
    · cases h

theorem optMapDocs_isSome {f : Doc → Option Doc} {p : Doc → Bool} : ∀ {xs : List Doc},
    (∀ x ∈ xs, (f x).isSome = p x) → (optMapDocs f xs).isSome = xs.all p
  | [], _ => rfl
  | x :: xs, h => by
    have hx := h x (by simp)
    have hr := optMapDocs_isSome (xs := xs) fun x' hx' => h x' (by simp [hx'])
    simp only [optMapDocs, List.all_cons, ← hx, ← hr]
    cases f x <;> cases optMapDocs f xs <;> rfl

theorem serdeBackZip_isSome : ∀ {es : List Shape} {xs : List Doc},
    (∀ e ∈ es, ∀ d, (serdeBack e d).isSome = serdeAccepts e d) → (serdeBackZip es xs).isSome = serdeZip es xs
  | [], [], _ => rfl
  | [], _ :: _, _ => rfl
  | _ :: _, [], _ => rfl
  | e :: es, x :: xs, h => by
    have hx := h e (by simp) x
    have hr := serdeBackZip_isSome (es := es) (xs := xs) fun e' he' => h e' (List.mem_cons_of_mem _ he')
    simp only [serdeBackZip, serdeZip, ← hx, ← hr]
    cases serdeBack e x <;> cases serdeBackZip es xs <;> rfl

theorem serdeBackFields_isSome {ms : List (String × Doc)} : ∀ {c : Members},
    (∀ kv ∈ c, ∀ d, (serdeBack kv.2 d).isSome = serdeAccepts kv.2 d) →
    (serdeBackFields c ms).isSome = serdeFields c ms
  | [], _ => rfl
  | (k, s) :: c, h => by
    have hr := serdeBackFields_isSome (ms := ms) (c := c) fun kv hkv => h kv (by simp [hkv])
    unfold serdeBackFields serdeFields
    rw [← hr]
    cases getDocMember k ms with
    | some v =>
      simp only [← h (k, s) (by simp) v]
      cases serdeBack s v <;> cases serdeBackFields c ms <;> rfl
    | none => cases (s.isOptional && !s.isNull) <;> cases serdeBackFields c ms <;> rfl

/-- the two models of the derive agree: a value is written back exactly when the document is read -/
theorem serdeBack_accepts (s : Shape) (d : Doc) : (serdeBack s d).isSome = serdeAccepts s d := by
  induction s generalizing d with
  | null => cases d <;> rfl
  | bool o | number o | string o => cases d <;> first | rfl | (cases o <;> rfl)
  | oneOf vs o => cases o <;> cases d <;> rfl
  | array t o ih =>
    cases d with
    | arr xs => exact Option.isSome_map.trans (optMapDocs_isSome fun x _ => ih x)
    | null => cases o <;> rfl
    | _ => rfl
  | tuple es o ih =>
    cases d with
    | arr xs => exact Option.isSome_map.trans (serdeBackZip_isSome ih)
    | null => cases o <;> rfl
    | _ => rfl
  | object c o ih =>
    cases d with
    | obj ms =>
      cases c with
      | nil => rfl
      | cons kv c => exact Option.isSome_map.trans (serdeBackFields_isSome ih)
    | null => cases o <;> cases c <;> rfl
    | _ => rfl

theorem serdeFields_eq (ms : List (String × Doc)) : ∀ c, serdeFields c ms = c.all fun kv =>
    match getDocMember kv.1 ms with
    | some v => serdeAccepts kv.2 v
    | none => kv.2.isOptional && !kv.2.isNull :=
  all_of_rec rfl fun _ _ => rfl

def Roundtrips (s : Shape) : Prop :=
  ∀ d, docNoDup d = true → admits s d = true → ∃ d', serdeBack s d = some d' ∧ backEq d d' = true

theorem optMapDocs_backEq {f : Doc → Option Doc} : ∀ {xs : List Doc},
    (∀ x ∈ xs, ∃ y, f x = some y ∧ backEq x y = true) → ∃ ys, optMapDocs f xs = some ys ∧ backEqL xs ys = true
  | [], _ => ⟨[], rfl, rfl⟩
  | x :: xs, h => by
    obtain ⟨y, hy1, hy2⟩ := h x (by simp)
    obtain ⟨ys, hys1, hys2⟩ := optMapDocs_backEq (xs := xs) fun x' hx' => h x' (by simp [hx'])
    exact ⟨y :: ys, by simp [optMapDocs, hy1, hys1], by simp [backEqL, hy2, hys2]⟩

theorem serdeBackZip_backEq {es : List Shape} {xs : List Doc}
    (h : Pointwise (fun e x => ∃ y, serdeBack e x = some y ∧ backEq x y = true) es xs) :
    ∃ ys, serdeBackZip es xs = some ys ∧ backEqL xs ys = true :=
  h.ind ⟨[], rfl, rfl⟩ fun ⟨y, hy1, hy2⟩ _ ⟨ys, hys1, hys2⟩ =>
    ⟨y :: ys, by simp [serdeBackZip, hy1, hys1], by simp [backEqL, hy2, hys2]⟩

theorem backEqM_iff {bs : List (String × Doc)} : ∀ {l : List (String × Doc)},
    backEqM l bs = true ↔ ∀ kv ∈ l, ∃ w, getDocMember kv.1 bs = some w ∧ backEq kv.2 w = true
  | [] => iff_of_true rfl fun _ => nofun
  | (k, v) :: l => by
    simp only [backEqM, Bool.and_eq_true, List.forall_mem_cons, backEqM_iff (l := l)]
    refine and_congr_left' ?_
    cases getDocMember k bs <;> simp

theorem roundtrips (s : Shape) : Derivable s → Roundtrips s := by
  induction s with
  | null =>
    intro _ d _ h
    cases d with
    | null => exact ⟨.null, rfl, rfl⟩
    | _ => contradiction
  | bool o =>
    intro _ d _ h
    cases d with
    | bool b => exact ⟨.bool b, rfl, beq_iff_eq.2 rfl⟩
    | null => exact ⟨.null, by rw [show o = true from h]; rfl, rfl⟩
    | _ => contradiction
  | number o =>
    intro _ d _ h
    cases d with
    | num x => exact ⟨.num x, rfl, rfl⟩
    | null => exact ⟨.null, by rw [show o = true from h]; rfl, rfl⟩
    | _ => contradiction
  | string o =>
    intro _ d _ h
    cases d with
    | str x => exact ⟨.str x, rfl, beq_iff_eq.2 rfl⟩
    | null => exact ⟨.null, by rw [show o = true from h]; rfl, rfl⟩
    | _ => contradiction
  | oneOf vs o => exact fun h => absurd h Derivable.not_oneOf
  | array t o ih =>
    intro hf d hdd h
    rcases admits_array_cases h with ⟨rfl, rfl⟩ | ⟨xs, rfl, hxs⟩
    · exact ⟨.null, rfl, rfl⟩
    · rw [List.all_eq_true] at hxs
      obtain ⟨ys, h1, h2⟩ := optMapDocs_backEq (f := fun x => serdeBack t x)
        fun x hx => ih hf x (docNoDupL_iff.1 hdd x hx) (hxs x hx)
      exact ⟨.arr ys, congrArg (Option.map Doc.arr) h1, h2⟩
  | tuple es o ih =>
    intro hf d hdd h
    rcases admits_tuple_cases h with ⟨rfl, rfl⟩ | ⟨xs, rfl, hxs⟩
    · exact ⟨.null, rfl, rfl⟩
    · obtain ⟨ys, h1, h2⟩ := serdeBackZip_backEq <| (admitsZip_iff.1 hxs).imp_mem fun e he x hx =>
        ih e he (hf.tuple e he) x (docNoDupL_iff.1 hdd x hx)
      exact ⟨.arr ys, congrArg (Option.map Doc.arr) h1, h2⟩
  | object c o ih =>
    intro hf d hdd h
    obtain ⟨hsort, hne, hc⟩ := hf.object
    rcases admits_object_cases h with ⟨rfl, rfl⟩ | ⟨ms, rfl, hms, habs⟩
    · exact ⟨.null, rfl, rfl⟩
    · simp only [docNoDup, Bool.and_eq_true] at hdd
      rw [List.all_eq_true] at hms
      rw [absentOk_iff] at habs
      -- a member that is present is read by its field and written back equal
      have field : ∀ k s v, (k, s) ∈ c → (k, v) ∈ ms → ∃ w, serdeBack s v = some w ∧ backEq v w = true := by
        intro k s v hks hkv
        have hadm := hms (k, v) hkv
        rw [admitsKey_of_mem hsort hks] at hadm
        exact ih _ hks (hc _ hks).2 v (docNoDupM_iff.1 hdd.2 (k, v) hkv) hadm
      obtain ⟨bs, hbs⟩ : ∃ bs, serdeBackFields c ms = some bs := by
        rw [← Option.isSome_iff_exists, serdeBackFields_isSome fun kv _ => serdeBack_accepts kv.2, serdeFields_eq,
          List.all_eq_true]
        intro kv hkv
        split
        · rename_i v hg
          obtain ⟨w, hw, _⟩ := field kv.1 kv.2 v hkv (getDocMember_mem hg)
          rw [← serdeBack_accepts, hw]
          rfl
        · rename_i hg
          have hnm : hasMember kv.1 ms = false := by
            rw [show hasMember kv.1 ms = hasDocMember kv.1 ms from rfl, hasDocMember_eq, hg]
            rfl
          have := (habs kv hkv).resolve_left (by simp [hnm])
          simp [isOptional_of_admits_null this (hc kv hkv).2.2.1, (hc kv hkv).1]
      obtain ⟨g1, g2⟩ := serdeBackFields_spec hsort hbs
      have hback : serdeBack (.object c o) (.obj ms) = some (.obj bs) := by
        show (if c.isEmpty then none else (serdeBackFields c ms).map Doc.obj) = some (.obj bs)
        rw [hne, hbs]
        rfl
      refine ⟨.obj bs, hback, Bool.and_eq_true_iff.2 ⟨?_, ?_⟩⟩
      · -- every member of the source comes back with an equal value
        refine backEqM_iff.2 fun kv hkv => ?_
        obtain ⟨s, hks, _⟩ := admitsKey_true (hms kv hkv)
        obtain ⟨w, hw1, hw2⟩ := g1 kv.1 s hks
        unfold FieldBack at hw2
        rw [getDocMember_of_mem hdd.1 hkv] at hw2
        obtain ⟨w', hw'1, hw'2⟩ := field kv.1 s kv.2 hks hkv
        rw [hw2] at hw'1
        cases hw'1
        exact ⟨w, hw1, hw'2⟩
      · -- nothing comes back that was not there, except explicit nulls
        rw [List.all_eq_true]
        intro kw hkw
        obtain ⟨s, _, hfb⟩ := g2 kw hkw
        unfold FieldBack at hfb
        rw [hasDocMember_eq]
        cases hg : getDocMember kw.1 ms with
        | some v => simp
        | none =>
          rw [hg] at hfb
          simp [hfb, Doc.isNull]

/-- **C15, serialise-back clause in the model**: in the fragment where deserialisation is proved, the
value read from an admitted document is written back as a document equal to the source up to number
formatting, member order and explicit nulls for absent optional members -/
theorem admits_roundtrips (s : Shape) (d : Doc) (hw : s.wf = true) (hno : hasOneOf s = false)
    (hne : hasEmptyObject s = false) (hnn : noNullMembers s = true) (hdd : docNoDup d = true)
    (h : admits s d = true) : ∃ d', serdeBack s d = some d' ∧ backEq d d' = true :=
  roundtrips s ⟨hw, hno, hne, hnn⟩ d hdd h

/-- non-vacuity, and an instance with an absent optional member and another number form -/
example :
    (match serdeBack (.object [("id", .number false), ("tag", .string true)] false) (.obj [("id", .num "1e0")]) with
     | some d' => backEq (.obj [("id", .num "1e0")]) d' && backEq d' (.obj [("id", .num "1"), ("tag", .null)])
     | none => false) = true := by decide

/-- **C15, deserialisation clause in the model**: every admitted document without repeated member
names is accepted by the derive model `serdeAccepts`, for OneOf-free shapes without empty objects and
without Null-typed members. What is written back (`admits_roundtrips`) was read (`serdeBack_accepts`). -/
theorem admits_deserializes (s : Shape) (d : Doc) (hw : s.wf = true) (hno : hasOneOf s = false)
    (hne : hasEmptyObject s = false) (hnn : noNullMembers s = true) (hdd : docNoDup d = true)
    (h : admits s d = true) : serdeAccepts s d = true := by
  obtain ⟨d', hd', _⟩ := admits_roundtrips s d hw hno hne hnn hdd h
  rw [← serdeBack_accepts, hd']
  rfl

/-- the same for the root item, which is the bare struct/enum: roots that are not an optional Object
(known finding D22) -/
theorem admits_deserializes_root (s : Shape) (d : Doc) (hw : s.wf = true) (hno : hasOneOf s = false)
    (hne : hasEmptyObject s = false) (hnn : noNullMembers s = true) (hr : rootOptionalNamed s = false)
    (hdd : docNoDup d = true) (h : admits s d = true) : rootAccepts s d = true := by
  simp only [rootAccepts, hr, Bool.false_eq_true, if_false]
  exact admits_deserializes s d hw hno hne hnn hdd h

/-- known finding D19: an empty object is a unit struct, which does not read `{}` -/
theorem empty_object_rejects :
    admits (.object [] false) (.obj []) = true ∧ serdeAccepts (.object [] false) (.obj []) = false := by decide

/-- known finding D22: the root item of an optional object does not read `null` -/
theorem root_optional_rejects_null :
    admits (.object [("a", .number false)] true) .null = true ∧
    rootAccepts (.object [("a", .number false)] true) .null = false := by decide

/-- **C15 composed with C01**: for every non-empty history of documents (conflict-free: D3), the shape
inferred from them exists and, when it lies in the fragment, every source deserialises into the root
type generated for it. -/
theorem sources_deserialize (h : List Doc) (hne : h ≠ [])
    (hok : ∀ d ∈ h, ∃ s, inferDoc d = .ok s) (hcf : ∀ d ∈ h, conflictFree d = true)
    (hdd : ∀ d ∈ h, docNoDup d = true) :
    ∃ s, fromSourcesDoc h = .ok s ∧
      (hasOneOf s = false → hasEmptyObject s = false → noNullMembers s = true →
        rootOptionalNamed s = false → ∀ d ∈ h, rootAccepts s d = true) := by
  obtain ⟨s, hs, hw, hadm⟩ := sources_sound h hne hok hcf
  exact ⟨s, hs, fun h1 h2 h3 h4 d hd => admits_deserializes_root s d hw h1 h2 h3 h4 (hdd d hd) (hadm d hd)⟩

/-- known finding D18: no bare document deserialises into the enum generated for a `OneOf` -/
theorem oneOf_rejects_sources (vs : List Shape) (d : Doc) (_hd : d.isNull = false) :
    serdeAccepts (.oneOf vs false) d = false := rfl

/-- known finding D23: a member of shape `Null` that is absent from a source is a missing `()` field -/
theorem null_member_missing :
    admits (.object [("a", .null)] false) (.obj []) = true ∧
    serdeAccepts (.object [("a", .null)] false) (.obj []) = false := by decide

end ShapeVerif
