/-
C11 — External representations of a shape are faithful.
* `serde_roundtrip`: deserialising the serialised tree of any well-formed shape yields the shape.
* `display_inj`: for identifier-like member names (`[A-Za-z0-9_-]+`) the Display text determines the
  shape. A text is `opener ++ children ++ closer`; the openers form a prefix code (`opener_eq_of_prefix`),
  so equal texts come from shapes of the same kind and flag (`display_split`); children are compared by
  induction, sequences of them by `joined_inj`.
Determinism of both is immediate in the model (they are functions) and is checked on the code.
-/
import ShapeVerif.Lemmas.Containers
import ShapeVerif.Lemmas.ShapeClasses
import ShapeVerif.Model.Serde
import ShapeVerif.Model.Display
import ShapeVerif.Model.Subtypes
namespace ShapeVerif
open Shape Std

def ReadsBack (s : Shape) : Prop := ∀ fuel, docSize (serJ s) < fuel → deJ fuel (serJ s) = some s

theorem deJList_serJList : ∀ {l : List Shape}, (∀ s ∈ l, ReadsBack s) → ∀ fuel,
    docSizeList (serJList l) < fuel → deJList fuel (serJList l) = some l
  | _, _, 0 => fun hf => by simp at hf
  | [], _, fuel + 1 => fun _ => rfl
  | a :: l, h, fuel + 1 => fun hf => by
    simp only [serJList, docSizeList] at hf
    have hf := Nat.lt_of_succ_lt_succ hf
    simp only [serJList, deJList, h a (List.mem_cons_self ..) fuel (Nat.lt_of_add_right_lt hf),
      deJList_serJList (l := l) (fun s hs => h s (List.mem_cons_of_mem _ hs)) fuel (Nat.lt_of_add_left_lt hf)]

theorem deJMembers_serJMembers : ∀ {c : Members}, (∀ kv ∈ c, ReadsBack kv.2) → ∀ fuel,
    docSizeMembers (serJMembers c) < fuel → deJMembers fuel (serJMembers c) = some c
  | _, _, 0 => fun hf => by simp at hf
  | [], _, fuel + 1 => fun _ => rfl
  | (k, v) :: c, h, fuel + 1 => fun hf => by
    simp only [serJMembers, docSizeMembers] at hf
    have hf := Nat.lt_of_succ_lt_succ hf
    have hv : ReadsBack v := h (k, v) (List.mem_cons_self ..)
    simp only [serJMembers, deJMembers, hv fuel (Nat.lt_of_add_right_lt hf),
      deJMembers_serJMembers (c := c) (fun s hs => h s (List.mem_cons_of_mem _ hs)) fuel
        (Nat.lt_of_add_left_lt hf)]

theorem readsBack (s : Shape) : s.wf = true → ReadsBack s := by
  induction s with
  | null | bool o | number o | string o =>
    intro _ fuel hf
    cases fuel with
    | zero => exact absurd hf (Nat.not_lt_zero _)
    | succ fuel =>
      simp only [serJ, structVariant]
      rw [deJ]
  | array t o ih =>
    intro hw fuel hf
    cases fuel with
    | zero => exact absurd hf (Nat.not_lt_zero _)
    | succ fuel =>
      simp only [serJ, structVariant, docSize, docSizeMembers] at hf
      -- `rw [deJ]` leaves a `match` on the recursive call that closes by `rfl` once the call is rewritten;
      -- `simp only [deJ]` would also try the catch-all equation with all its negated string patterns
      rw [serJ, structVariant, deJ, ih hw fuel (by omega)]
  | object c o ih =>
    intro hw fuel hf
    cases fuel with
    | zero => exact absurd hf (Nat.not_lt_zero _)
    | succ fuel =>
      simp only [Shape.wf, Bool.and_eq_true] at hw
      simp only [serJ, structVariant, docSize, docSizeMembers] at hf
      rw [serJ, structVariant, deJ,
        deJMembers_serJMembers (fun kv hkv => ih kv hkv (wfMembers_iff.1 hw.2 kv hkv)) fuel (by omega)]
      simp only [mapOfList_of_sorted hw.1]
  | oneOf vs o ih =>
    intro hw fuel hf
    cases fuel with
    | zero => exact absurd hf (Nat.not_lt_zero _)
    | succ fuel =>
      rw [wf_oneOf_iff] at hw
      simp only [serJ, structVariant, docSize, docSizeMembers] at hf
      rw [serJ, structVariant, deJ,
        deJList_serJList (fun v hv => ih v hv (wfList_iff.1 hw.2 v hv)) fuel (by omega)]
      simp only [setOfList_of_sorted hw.1]
  | tuple es o ih =>
    intro hw fuel hf
    cases fuel with
    | zero => exact absurd hf (Nat.not_lt_zero _)
    | succ fuel =>
      simp only [serJ, structVariant, docSize, docSizeMembers] at hf
      rw [serJ, structVariant, deJ,
        deJList_serJList (fun v hv => ih v hv (wfList_iff.1 hw v hv)) fuel (by omega)]

/-- **serde round trip**: serialising any (well-formed) shape and deserialising the result yields an
equal shape -/
theorem serde_roundtrip (s : Shape) (hw : s.wf = true) : deserialize (serJ s) = some s :=
  readsBack s hw _ (Nat.lt_succ_self _)

example : deserialize (serJ (.object [("a", .oneOf [.null, .tuple [.number true] false] true)] false))
    = some (.object [("a", .oneOf [.null, .tuple [.number true] false] true)] false) := by decide +kernel

/-- member name in `[A-Za-z0-9_-]+` -/
def identKey (k : String) : Bool := !k.toList.isEmpty && k.toList.all identChar

mutual
def identKeys : Shape → Bool
  | .array t _ => identKeys t
  | .object c _ => identKeysMembers c
  | .oneOf vs _ => identKeysList vs
  | .tuple es _ => identKeysList es
  | _ => true
def identKeysList : List Shape → Bool
  | [] => true
  | s :: l => identKeys s && identKeysList l
def identKeysMembers : Members → Bool
  | [] => true
  | (k, v) :: l => identKey k && identKeys v && identKeysMembers l
end

/-- the statement proved for one shape: its Display text is a prefix code word -/
def PrefixFree (a : Shape) : Prop :=
  ∀ b r1 r2, identKeys a = true → identKeys b = true →
    displayChars a ++ r1 = displayChars b ++ r2 → a = b ∧ r1 = r2

def opener (k : Kind) (o : Bool) : List Char :=
  (if o then kwOption else []) ++
    match k with
    | .null => kwNull | .boolean => kwBoolean | .number => kwNumber | .string => kwString
    | .array => kwArray | .object => kwObject | .oneOf => kwOneOf | .tuple => kwTuple

def closer (k : Kind) (o : Bool) : List Char :=
  (match k with
    | .array => ['>'] | .object => ['}'] | .oneOf => [']'] | .tuple => [')'] | _ => []) ++
    if o then ['>'] else []

def inner : Shape → List Char
  | .array t _ => displayChars t
  | .object c _ => membersChars c
  | .oneOf vs _ => listChars sepBar vs
  | .tuple es _ => listChars sepComma es
  | _ => []

theorem displayChars_eq (s : Shape) :
    displayChars s = opener (kindOf s) (optFlagOf s) ++ (inner s ++ closer (kindOf s) (optFlagOf s)) := by
  cases s with
  | null => rfl
  | bool o | number o | string o => cases o <;> rfl
  | array _ o | object _ o | oneOf _ o | tuple _ o =>
    cases o <;> simp [displayChars, wrapOptC, opener, closer, inner, kindOf, optFlagOf]

def allKinds : List Kind := [.null, .number, .string, .boolean, .array, .tuple, .object, .oneOf]

theorem mem_allKinds (k : Kind) : k ∈ allKinds := by cases k <;> decide

/-- The keyword table is a prefix code: the one finite fact about the fixed keywords, checked by
evaluation over the 16 × 16 pairs. -/
theorem opener_eq_of_prefix : ∀ k ∈ allKinds, ∀ o, ∀ k' ∈ allKinds, ∀ o',
    opener k o <+: opener k' o' → k = k' ∧ o = o' := by decide +kernel

theorem opener_head : ∀ k ∈ allKinds, ∀ o, ((opener k o).head?.any identChar) = true := by
  decide +kernel

theorem opener_inj {k k' : Kind} {o o' : Bool} {x y : List Char} (h : opener k o ++ x = opener k' o' ++ y) :
    (k = k' ∧ o = o') ∧ x = y := by
  have hk : k = k' ∧ o = o' := by
    rcases List.prefix_or_prefix_of_prefix (List.prefix_append _ x) (h ▸ List.prefix_append _ y) with p | p
    · exact opener_eq_of_prefix k (mem_allKinds k) o k' (mem_allKinds k') o' p
    · have := opener_eq_of_prefix k' (mem_allKinds k') o' k (mem_allKinds k) o p
      exact ⟨this.1.symm, this.2.symm⟩
  obtain ⟨rfl, rfl⟩ := hk
  exact ⟨⟨rfl, rfl⟩, List.append_cancel_left h⟩

theorem displayChars_head (s : Shape) : ∃ c rest, displayChars s = c :: rest ∧ identChar c = true := by
  have := opener_head _ (mem_allKinds (kindOf s)) (optFlagOf s)
  rw [displayChars_eq]
  cases h : opener (kindOf s) (optFlagOf s) with
  | nil => simp [h] at this
  | cons c rest => exact ⟨c, _, rfl, by simpa [h] using this⟩

def joined {α : Type} (f : α → List Char) (sep : List Char) : List α → List Char
  | [] => []
  | x :: xs => f x ++ xs.flatMap fun y => sep ++ f y

/-- `.join(sep)` written as the model writes it, by cases on one element or more, is `joined` -/
theorem joined_of_rec {α : Type} {f : α → List Char} {sep : List Char} {g : List α → List Char} (nil : g [] = [])
    (one : ∀ x, g [x] = f x) (cons : ∀ x y l, g (x :: y :: l) = f x ++ sep ++ g (y :: l)) :
    ∀ l, g l = joined f sep l
  | [] => nil
  | [x] => by simp [one, joined]
  | x :: y :: l => by
    rw [cons, joined_of_rec nil one cons (y :: l)]
    simp [joined]

theorem listChars_eq (sep : List Char) : ∀ vs, listChars sep vs = joined displayChars sep vs :=
  joined_of_rec rfl (fun _ => rfl) fun _ _ _ => rfl

/-- one member as `display_object_content` prints it -/
def memberChars (kv : String × Shape) : List Char := keyChars kv.1 ++ sepColon ++ displayChars kv.2

theorem membersChars_eq : ∀ c, membersChars c = joined memberChars sepComma c :=
  joined_of_rec rfl (fun _ => rfl) fun _ _ _ => rfl

/-- A separated sequence of words of a prefix code, followed by a closing character that starts neither
a word nor the separator, determines the sequence. -/
theorem joined_inj {α : Type} {f : α → List Char} {sep : List Char} {close : Char}
    (hsep : ∀ r r', sep ++ r ≠ close :: r') :
    ∀ {xs ys : List α} {r r' : List Char}, (∀ x ∈ xs ++ ys, ∀ r r', f x ++ r ≠ close :: r') →
      (∀ x ∈ xs, ∀ y ∈ ys, ∀ r r', f x ++ r = f y ++ r' → x = y ∧ r = r') →
      joined f sep xs ++ close :: r = joined f sep ys ++ close :: r' → xs = ys ∧ r = r' := by
  have tail : ∀ {xs ys : List α} {r r' : List Char},
      (∀ x ∈ xs, ∀ y ∈ ys, ∀ r r', f x ++ r = f y ++ r' → x = y ∧ r = r') →
      (xs.flatMap fun y => sep ++ f y) ++ close :: r = (ys.flatMap fun y => sep ++ f y) ++ close :: r' →
      xs = ys ∧ r = r' := by
    intro xs
    induction xs with
    | nil =>
      intro ys r r' _ h
      cases ys with
      | nil => exact ⟨rfl, by simpa using h⟩
      | cons y ys => exact absurd (by simpa using h.symm) (hsep _ r)
    | cons x xs ih =>
      intro ys r r' hc h
      cases ys with
      | nil => exact absurd (by simpa using h) (hsep _ r')
      | cons y ys =>
        simp only [List.flatMap_cons, List.append_assoc] at h
        obtain ⟨rfl, h2⟩ := hc x (by simp) y (by simp) _ _ (List.append_cancel_left h)
        obtain ⟨rfl, rfl⟩ := ih (fun a ha b hb => hc a (List.mem_cons_of_mem _ ha) b (List.mem_cons_of_mem _ hb)) h2
        exact ⟨rfl, rfl⟩
  intro xs ys r r' hh hc h
  cases xs with
  | nil =>
    cases ys with
    | nil => exact ⟨rfl, by simpa [joined] using h⟩
    | cons y ys => exact absurd (by simpa [joined] using h.symm) (hh y (by simp) _ r)
  | cons x xs =>
    cases ys with
    | nil => exact absurd (by simpa [joined] using h) (hh x (by simp) _ r')
    | cons y ys =>
      simp only [joined, List.append_assoc] at h
      obtain ⟨rfl, h2⟩ := hc x (by simp) y (by simp) _ _ h
      obtain ⟨rfl, rfl⟩ := tail (fun a ha b hb => hc a (List.mem_cons_of_mem _ ha) b (List.mem_cons_of_mem _ hb)) h2
      exact ⟨rfl, rfl⟩

theorem split_at_delim (c : Char) : ∀ (a b x y : List Char), c ∉ a → c ∉ b →
    a ++ c :: x = b ++ c :: y → a = b ∧ x = y
  | [], [] => fun _ _ _ _ h => ⟨rfl, (List.cons.inj h).2⟩
  | [], _ :: _ => fun _ _ _ hb h => absurd (List.cons.inj h).1 (List.ne_of_not_mem_cons hb)
  | _ :: _, [] => fun _ _ ha _ h => absurd (List.cons.inj h).1.symm (List.ne_of_not_mem_cons ha)
  | _ :: a, _ :: b => fun x y ha hb h => by
    obtain ⟨rfl, h'⟩ := List.cons.inj h
    obtain ⟨rfl, rfl⟩ := split_at_delim c a b x y (List.not_mem_of_not_mem_cons ha) (List.not_mem_of_not_mem_cons hb) h'
    exact ⟨rfl, rfl⟩

theorem identChar_ne {c d : Char} (hc : identChar c = true) (hd : identChar d = false) : c ≠ d := by
  intro e; subst e; rw [hc] at hd; cases hd

theorem colon_not_in_key {k : String} (h : identKey k = true) : ':' ∉ k.toList := by
  intro hm
  simp only [identKey, Bool.and_eq_true, List.all_eq_true] at h
  have := h.2 ':' hm
  revert this; decide

theorem keyChars_ident {k : String} (h : identKey k = true) : keyChars k = k.toList := by
  simp only [identKey, Bool.and_eq_true] at h
  simp [keyChars, keyIsPlain, h.2]

theorem key_head {k : String} (h : identKey k = true) : ∃ c rest, k.toList = c :: rest ∧ identChar c = true := by
  simp only [identKey, Bool.and_eq_true, List.all_eq_true] at h
  cases hk : k.toList with
  | nil => simp [hk] at h
  | cons c rest => exact ⟨c, rest, rfl, h.2 c (by simp [hk])⟩

theorem identKeysList_mem {l : List Shape} (h : identKeysList l = true) : ∀ s ∈ l, identKeys s = true :=
  List.all_eq_true.1 (all_of_rec (f := identKeysList) rfl (fun _ _ => rfl) l ▸ h)

theorem identKeysMembers_mem : ∀ {c : Members}, identKeysMembers c = true →
    ∀ kv ∈ c, identKey kv.1 = true ∧ identKeys kv.2 = true
  | [], _ => nofun
  | (_, _) :: _, h => by
    simp only [identKeysMembers, Bool.and_eq_true] at h
    exact List.forall_mem_cons.2 ⟨h.1, identKeysMembers_mem h.2⟩

theorem member_prefixFree {k k' : String} {v v' : Shape} {r r' : List Char} (hP : PrefixFree v)
    (hk : identKey k = true) (hv : identKeys v = true) (hk' : identKey k' = true) (hv' : identKeys v' = true)
    (h : memberChars (k, v) ++ r = memberChars (k', v') ++ r') : (k, v) = (k', v') ∧ r = r' := by
  simp only [memberChars, keyChars_ident hk, keyChars_ident hk', sepColon, List.append_assoc,
    List.cons_append, List.nil_append] at h
  obtain ⟨e1, e2⟩ := split_at_delim ':' _ _ _ _ (colon_not_in_key hk) (colon_not_in_key hk') h
  obtain ⟨rfl, e3⟩ := hP v' _ _ hv hv' (List.cons.inj e2).2
  exact ⟨by rw [String.toList_inj.1 e1], e3⟩

theorem head_ne {w : List Char} {close : Char} (hw : ∃ c rest, w = c :: rest ∧ identChar c = true)
    (hc : identChar close = false) (r r' : List Char) : w ++ r ≠ close :: r' := by
  obtain ⟨c, rest, rfl, hi⟩ := hw
  intro h
  exact identChar_ne hi hc (List.cons.inj h).1

theorem display_split {a b : Shape} {r1 r2 : List Char} (h : displayChars a ++ r1 = displayChars b ++ r2) :
    kindOf a = kindOf b ∧ optFlagOf a = optFlagOf b ∧
      inner a ++ (closer (kindOf a) (optFlagOf a) ++ r1) = inner b ++ (closer (kindOf a) (optFlagOf a) ++ r2) := by
  simp only [displayChars_eq a, displayChars_eq b, List.append_assoc] at h
  obtain ⟨⟨hk, ho⟩, h⟩ := opener_inj h
  exact ⟨hk, ho, by rw [h, hk, ho]⟩

theorem list_prefixFree {sep : List Char} {close : Char} (hsep : ∀ r r', sep ++ r ≠ close :: r')
    (hclose : identChar close = false) {vs ws : List Shape} {r1 r2 : List Char}
    (hP : ∀ v ∈ vs, PrefixFree v) (hv : identKeysList vs = true) (hw : identKeysList ws = true)
    (h : listChars sep vs ++ close :: r1 = listChars sep ws ++ close :: r2) : vs = ws ∧ r1 = r2 := by
  rw [listChars_eq, listChars_eq] at h
  exact joined_inj hsep (fun v _ => head_ne (displayChars_head v) hclose)
    (fun v hv' w hw' _ _ => hP v hv' w _ _ (identKeysList_mem hv v hv') (identKeysList_mem hw w hw')) h

theorem members_prefixFree {c c' : Members} {r1 r2 : List Char} (hP : ∀ kv ∈ c, PrefixFree kv.2)
    (hv : identKeysMembers c = true) (hw : identKeysMembers c' = true)
    (h : membersChars c ++ '}' :: r1 = membersChars c' ++ '}' :: r2) : c = c' ∧ r1 = r2 := by
  rw [membersChars_eq, membersChars_eq] at h
  have hv := identKeysMembers_mem hv
  have hw := identKeysMembers_mem hw
  refine joined_inj (by simp [sepComma]) (fun kv hkv => head_ne ?_ (by decide))
    (fun kv hkv kv' hkv' _ _ => member_prefixFree (hP kv hkv) (hv kv hkv).1 (hv kv hkv).2
      (hw kv' hkv').1 (hw kv' hkv').2) h
  have hk := ((List.mem_append.1 hkv).elim (hv kv) (hw kv)).1
  obtain ⟨ch, rest, e, hc⟩ := key_head hk
  exact ⟨ch, _, by rw [memberChars, keyChars_ident hk, e]; rfl, hc⟩

theorem prefixFree (a : Shape) : PrefixFree a := by
  induction a with
  | null | bool | number | string =>
    intro b r1 r2 _ _ h
    obtain ⟨hk, ho, h⟩ := display_split h
    cases b <;> cases hk
    cases ho
    exact ⟨rfl, List.append_cancel_left h⟩
  | array t o ih =>
    intro b r1 r2 ha hb h
    obtain ⟨hk, ho, h⟩ := display_split h
    cases b with
    | array t' o' =>
      cases ho
      obtain ⟨rfl, h2⟩ := ih t' _ _ ha hb h
      exact ⟨rfl, List.append_cancel_left h2⟩
    | _ => cases hk
  | object c o ih =>
    intro b r1 r2 ha hb h
    obtain ⟨hk, ho, h⟩ := display_split h
    cases b <;> cases hk
    cases ho
    obtain ⟨rfl, h2⟩ := members_prefixFree (fun kv hkv => ih kv hkv) ha hb h
    exact ⟨rfl, List.append_cancel_left h2⟩
  | oneOf vs o ih | tuple vs o ih =>
    intro b r1 r2 ha hb h
    obtain ⟨hk, ho, h⟩ := display_split h
    cases b <;> cases hk
    cases ho
    obtain ⟨rfl, h2⟩ := list_prefixFree (by simp [sepBar, sepComma]) (by decide) ih ha hb h
    exact ⟨rfl, List.append_cancel_left h2⟩

/-- `prefixFree` in the form the documents name (the bound `n` plays no part) -/
theorem prefixFree_aux (n : Nat) : ∀ a : Shape, sizeOf a ≤ n → PrefixFree a := fun a _ => prefixFree a

/-- **Display is injective** on shapes whose member names are identifier-like: two different shapes
never print the same text. -/
theorem display_inj (a b : Shape) (ha : identKeys a = true) (hb : identKeys b = true)
    (h : display a = display b) : a = b := by
  have hc : displayChars a = displayChars b := by
    unfold display at h
    have := congrArg String.toList h
    simpa using this
  exact (prefixFree a b [] [] ha hb (by simp [hc])).1

theorem display_deterministic (a b : Shape) (h : a = b) : display a = display b := by rw [h]

example : identKeys (.object [("key_1", .array (.oneOf [.null, .string false] false) true), ("k-2", .tuple [] false)] false)
    = true := by decide

end ShapeVerif
