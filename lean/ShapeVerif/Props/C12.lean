/-
C12 — Cost grows polynomially with input size, not exponentially with nesting.
Work is measured as the number of calls to the four recursive workhorses (`From<&Value>`,
`parse_rule`, `merger`, `is_subset`); the hooks count the same calls in the real code and the
correspondence check compares the counts exactly. Heap allocations are measured by the harness on
growth families and fitted (validation of "calls bound the work", not a proof).
-/
import ShapeVerif.Model.Cost
import ShapeVerif.Lemmas.SubsetTwin
namespace ShapeVerif
open Shape

theorem size_pos (s : Shape) : 1 ≤ s.size := by cases s <;> exact Nat.le_add_left 1 _

theorem sizeList_mem {l : List Shape} {v : Shape} (h : v ∈ l) : v.size ≤ sizeList l := by
  induction l with
  | nil => cases h
  | cons a l ih =>
    simp only [sizeList]
    rcases List.mem_cons.1 h with rfl | h
    · exact Nat.le_add_right ..
    · exact Nat.le_add_left_of_le (ih h)

/-! ### value path: one conversion per node — the twin's definition, tied to the code by the hook count only -/

theorem inferSVal_cost (v : Doc) : ticksSVal v = v.nodes := rfl

/-- one more level of nesting adds exactly one conversion -/
theorem inferSVal_level_additive (d : Doc) : ticksSVal (.arr [d]) = ticksSVal d + 1 := by
  simp [ticksSVal, Doc.nodes, Doc.nodesList]

/-! ### text path: `parse_rule` is entered at most once per node -/

mutual
theorem ticksInferDoc_le : ∀ d : Doc, ticksInferDoc d ≤ d.nodes
  | .arr xs => by
    rw [ticksInferDoc, Doc.nodes, Nat.add_comm]
    exact Nat.add_le_add_right (ticksInferList_le xs) 1
  | .obj ms => by
    rw [ticksInferDoc, Doc.nodes, Nat.add_comm]
    exact Nat.add_le_add_right (ticksInferMembers_le ms []) 1
  | .null | .bool _ | .num _ | .str _ => Nat.le_refl _
theorem ticksInferList_le : ∀ l : List Doc, ticksInferList l ≤ Doc.nodesList l
  | [] => Nat.le_refl _
  | x :: l => by
    simp only [ticksInferList, Doc.nodesList]
    split
    · exact Nat.le_add_right_of_le (ticksInferDoc_le x)
    · exact Nat.add_le_add (ticksInferDoc_le x) (ticksInferList_le l)
theorem ticksInferMembers_le : ∀ (l : List (String × Doc)) (c : Members),
    ticksInferMembers l c ≤ Doc.nodesMembers l
  | [], _ => Nat.le_refl _
  | (k, v) :: l, c => by
    have := ticksInferDoc_le v
    simp only [ticksInferMembers, Doc.nodesMembers]
    split
    · exact Nat.le_add_right_of_le this
    · split
      · exact Nat.le_add_right_of_le this
      · rename_i c' _
        exact Nat.add_le_add this (ticksInferMembers_le l c')
end

theorem inferDoc_cost (d : Doc) : ticksInferDoc d ≤ d.nodes := ticksInferDoc_le d

/-! ### merging: linear in the smaller operand -/

/-- total `merger` calls of `merge` over a list of shapes. The accumulated result of the previous
merges can be large, but each step costs at most the size of the *incoming* shape (`merge_cost`,
from `merger_cost_right`). -/
def mergeT : Shape → List Shape → Nat
  | _, [] => 0
  | acc, s :: l => mergerT acc s + mergeT (merger acc s) l

theorem sizeMembers_mapRemove {k : String} {ov : Shape} : ∀ {other : Members}, mapGet k other = some ov →
    sizeMembers (mapRemove k other) + ov.size = sizeMembers other
  | [], h => by simp [mapGet] at h
  | (k', v) :: l, h => by
    simp only [mapGet] at h
    simp only [mapRemove]
    split at h
    · rename_i hk
      cases h
      rw [if_pos hk, sizeMembers]
      exact Nat.add_comm ..
    · rename_i hk
      simp only [hk, Bool.false_eq_true, if_false, sizeMembers]
      rw [Nat.add_assoc, sizeMembers_mapRemove (other := l) h]

theorem mergerT_le (a : Shape) : ∀ b, mergerT a b ≤ a.size ∧ mergerT a b ≤ b.size := by
  induction a with
  | array t o ih =>
    intro b
    cases b with
    | array t' p =>
      simp only [mergerT, Shape.size, Nat.add_comm 1, Nat.add_le_add_iff_right]
      exact ih t'
    | _ => exact ⟨size_pos _, size_pos _⟩
  | object c o ih =>
    intro b
    cases b with
    | object oc p => ?_
    | _ => exact ⟨size_pos _, size_pos _⟩
    simp only [mergerT, Shape.size, Nat.add_comm 1, Nat.add_le_add_iff_right]
    induction c generalizing oc with
    | nil => exact ⟨Nat.le_refl _, Nat.zero_le _⟩
    | cons kv l ihl =>
      obtain ⟨k, v⟩ := kv
      have ih' := fun kv' h => ih kv' (List.mem_cons_of_mem _ h)
      simp only [mergeMembersT, sizeMembers]
      split
      · rename_i ov hg
        have h1 := ih (k, v) (List.mem_cons_self ..) ov
        have h2 := ihl ih' (mapRemove k oc)
        rw [← sizeMembers_mapRemove hg, Nat.add_comm _ ov.size]
        exact ⟨Nat.add_le_add h1.1 h2.1, Nat.add_le_add h1.2 h2.2⟩
      · have := ihl ih' oc
        exact ⟨Nat.le_add_left_of_le this.1, this.2⟩
  | _ => exact fun b => ⟨size_pos _, size_pos b⟩

/-- `merger(a, b)` enters `merger` at most once per node of `a` -/
theorem merger_cost (a b : Shape) : mergerT a b ≤ a.size := (mergerT_le a b).1

theorem merger_cost_right (a b : Shape) : mergerT a b ≤ b.size := (mergerT_le a b).2

/-- merging `k` sources enters `merger` at most (total size of the merged-in shapes) times, whatever the
accumulator has grown to -/
theorem merge_cost : ∀ (acc : Shape) (l : List Shape), mergeT acc l ≤ sizeList l
  | _, [] => Nat.le_refl _
  | acc, s :: l => by
    simp only [mergeT, sizeList]
    exact Nat.add_le_add (merger_cost_right acc s) (merge_cost (merger acc s) l)

/-! ### subset queries: at most `size a * size b` calls -/

theorem anyT_bound {α : Type} (f : α → Bool × Nat) (w : α → Nat) (K : Nat) :
    ∀ (l : List α), (∀ x ∈ l, (f x).2 ≤ K * w x) → (anyT f l).2 ≤ K * (l.map w).sum
  | [], _ => Nat.zero_le _
  | x :: l, h => by
    have h1 := h x (by simp)
    have h2 := anyT_bound f w K l (fun y hy => h y (by simp [hy]))
    simp only [anyT, List.map_cons, List.sum_cons, Nat.mul_add]
    split
    · exact Nat.le_add_right_of_le h1
    · exact Nat.add_le_add h1 h2

theorem allT_bound {α : Type} (f : α → Bool × Nat) (w : α → Nat) (K : Nat) :
    ∀ (l : List α), (∀ x ∈ l, (f x).2 ≤ w x * K) → (allT f l).2 ≤ (l.map w).sum * K
  | [], _ => Nat.zero_le _
  | x :: l, h => by
    have h1 := h x (by simp)
    have h2 := allT_bound f w K l (fun y hy => h y (by simp [hy]))
    simp only [allT, List.map_cons, List.sum_cons, Nat.add_mul]
    split
    · exact Nat.add_le_add h1 h2
    · exact Nat.le_add_right_of_le h1

theorem sizeList_eq_sum (l : List Shape) : sizeList l = (l.map Shape.size).sum := by
  induction l with
  | nil => rfl
  | cons a l ih => simp [sizeList, ih]

theorem sizeMembers_eq_sum (l : Members) : sizeMembers l = (l.map fun kv => kv.2.size).sum := by
  induction l with
  | nil => rfl
  | cons a l ih => obtain ⟨k, v⟩ := a; simp [sizeMembers, ih]

theorem sizeList_filter_le (q : Shape → Bool) (l : List Shape) : sizeList (l.filter q) ≤ sizeList l := by
  induction l with
  | nil => exact Nat.le_refl _
  | cons a l ih =>
    simp only [List.filter_cons]
    split
    · exact Nat.add_le_add_left ih _
    · exact Nat.le_add_left_of_le ih

theorem zip_size_le : ∀ (es os : List Shape),
    ((es.zip os).map fun q => q.1.size * q.2.size).sum ≤ sizeList es * sizeList os
  | [], _ => by simp
  | _ :: _, [] => by simp
  | e :: es, o :: os => by
    have := zip_size_le es os
    simp only [List.zip_cons_cons, List.map_cons, List.sum_cons, sizeList, Nat.add_mul, Nat.mul_add]
    exact Nat.add_le_add (Nat.le_add_right ..) (Nat.le_add_left_of_le this)

/-- the call itself on top of the inner ones, both sizes growing by the node -/
theorem mul_succ_le (a b : Nat) : a * b + 1 ≤ (a + 1) * (b + 1) := by
  simp only [Nat.add_mul, Nat.mul_add, Nat.one_mul, Nat.mul_one]
  exact Nat.add_le_add (Nat.le_add_right ..) (Nat.le_add_left ..)

/-- the same when the left shape is passed on whole and only the right one loses its node -/
theorem succ_mul_succ_le (a b : Nat) : (a + 1) * b + 1 ≤ (a + 1) * (b + 1) := by
  rw [Nat.mul_add_one]
  exact Nat.add_le_add_left (Nat.le_add_left 1 a) _

/-- what a twin returns, answer and count, is `b` after at most `n` calls -/
def Within (r : Bool × Nat) (b : Bool) (n : Nat) : Prop := r.1 = b ∧ r.2 ≤ n

namespace Within
variable {r : Bool × Nat} {b : Bool} {n m : Nat}

theorem mono (h : Within r b n) (hn : n ≤ m) : Within r b m := ⟨h.1, Nat.le_trans h.2 hn⟩

theorem tick (h : Within r b n) : Within (subsetTick r) b (n + 1) := ⟨h.1, Nat.succ_le_succ h.2⟩

theorem guard (c : Bool) (h : Within r b n) : Within (if c then subsetTick r else (false, 1)) (c && b) (n + 1) := by
  cases c
  · exact ⟨rfl, Nat.le_add_left ..⟩
  · exact h.tick

theorem and_right (c : Bool) (h : Within r b n) : Within (r.1 && c, r.2) (b && c) n := ⟨congrArg (· && c) h.1, h.2⟩

variable {α : Type} {f : α → Bool × Nat} {g : α → Bool} {w : α → Nat} {K : Nat} {l : List α}

theorem all (h : ∀ x ∈ l, Within (f x) (g x) (w x * K)) : Within (allT f l) (l.all g) ((l.map w).sum * K) :=
  ⟨allT_fst f g l fun x hx => (h x hx).1, allT_bound f w K l fun x hx => (h x hx).2⟩

theorem any (h : ∀ x ∈ l, Within (f x) (g x) (K * w x)) : Within (anyT f l) (l.any g) (K * (l.map w).sum) :=
  ⟨anyT_fst f g l fun x hx => (h x hx).1, anyT_bound f w K l fun x hx => (h x hx).2⟩

end Within

theorem subsetT_within (a b : Shape) : Within (subsetT a b) (isSubset a b) (a.size * b.size) := by
  have leaf {x : Bool} (a b : Shape) : Within (x, 1) x (a.size * b.size) :=
    ⟨rfl, Nat.mul_pos (size_pos a) (size_pos b)⟩
  induction b using Shape.indAtom generalizing a with
  | atom b hb =>
    rw [subsetT_atom hb]
    exact leaf a b
  | array u p ih =>
    rw [subsetT_array]
    cases a with
    | array t o =>
      rw [sub_array_array]
      exact ((ih t).guard _).mono (mul_succ_le ..)
    | tuple es o =>
      have := Within.all (w := Shape.size) fun e (_ : e ∈ es) => ih e
      rw [← sizeList_eq_sum] at this
      rw [sub_tuple_array]
      exact (this.guard _).mono (mul_succ_le ..)
    | _ => exact leaf _ _
  | tuple os p ih =>
    rw [subsetT_tuple]
    cases a with
    | tuple es o =>
      have := Within.all (w := fun q => q.1.size * q.2.size) (K := 1) fun q (hq : q ∈ es.zip os) =>
        (ih _ (List.of_mem_zip hq).2 q.1).mono (Nat.le_of_eq (Nat.mul_one _).symm)
      rw [Nat.mul_one, ← zipAllT_eq, ← zipAllSubset_eq] at this
      simp only [sub_tuple]
      exact (((this.mono (zip_size_le es os)).and_right _).guard _).mono (mul_succ_le ..)
    | _ => exact leaf _ _
  | object oc p ih =>
    rw [subsetT_object]
    cases a with
    | object c o =>
      have hl : ∀ kv ∈ c, Within (lookupT kv.1 kv.2 oc) (lookupSubset kv.1 kv.2 oc) (kv.2.size * sizeMembers oc) :=
        fun kv _ => by
          rw [lookupT_eq, lookupSubset_eq_mapGet]
          cases h : mapGet kv.1 oc with
          | none => exact ⟨rfl, Nat.zero_le _⟩
          | some ov =>
            have hov : ov.size ≤ sizeMembers oc := by
              rw [← sizeMembers_mapRemove h]
              exact Nat.le_add_left ..
            exact (ih _ (mem_of_mapGet h) kv.2).mono (Nat.mul_le_mul_left _ hov)
      have := Within.all hl
      rw [← sizeMembers_eq_sum] at this
      rw [sub_object_object, objSub, ← Bool.and_assoc]
      exact (this.guard _).mono (mul_succ_le ..)
    | _ => exact leaf _ _
  | oneOf ws p ih =>
    -- a container is passed on whole (with the flag off) to some of the variants
    have hany : ∀ (s : Shape) (q : Shape → Bool),
        Within (anyT (subsetT s) (ws.filter q)) ((ws.filter q).any (isSubset s)) (s.size * sizeList ws) :=
      fun s q => (Within.any fun v hv => ih v (List.mem_filter.1 hv).1 s).mono
        (Nat.mul_le_mul_left _ (sizeList_eq_sum _ ▸ sizeList_filter_le q ws))
    have h1 : ∀ s, Within (anySupT s ws) (anySuperset s ws) (s.size * sizeList ws) := fun s => by
      rw [anySupT_eq, anySuperset_eq, sizeList_eq_sum]
      exact .any fun v hv => ih v hv s
    have h2 : ∀ s n, Within (anyNullOkT s n ws) (anyNullOkSuperset s n ws) (s.size * sizeList ws) := fun s n => by
      rw [anyNullOkT_eq, anyNullOkSuperset_eq, ← List.any_filter]
      exact hany s _
    have h3 : ∀ s, Within (anyObjT s ws) (anyObjectSuperset s ws) (s.size * sizeList ws) := fun s => by
      rw [anyObjT_eq, anyObjectSuperset_eq, ← List.any_filter]
      exact hany s _
    rw [subsetT_oneOf]
    cases a with
    | array _ o | tuple _ o =>
      simp only [sub_oneOf]
      cases o
      · exact (h1 _).tick.mono (succ_mul_succ_le ..)
      · exact (h2 ..).tick.mono (succ_mul_succ_le ..)
    | object c o =>
      simp only [sub_oneOf]
      cases o
      · exact (h3 _).tick.mono (succ_mul_succ_le ..)
      · exact (h2 ..).tick.mono (succ_mul_succ_le ..)
    | oneOf vs o =>
      have := Within.all (w := Shape.size) fun v (_ : v ∈ vs) => h1 v
      rw [← sizeList_eq_sum] at this
      simp only [sub_oneOf_oneOf]
      cases (!o || p)
      · exact leaf _ _
      · cases setIsSubset vs ws
        · exact this.tick.mono (mul_succ_le ..)
        · exact leaf _ _
    | _ => exact leaf _ _

/-- **subset_cost**: a subset query enters `is_subset` at most `size a * size b` times -/
theorem subset_cost (a b : Shape) : (subsetT a b).2 ≤ a.size * b.size := (subsetT_within a b).2

/-- the counting twin answers exactly what `isSubset` answers: `subset_cost` is a bound on the
evaluation of `isSubset` itself -/
theorem subsetT_is_isSubset (a b : Shape) : (subsetT a b).1 = isSubset a b := (subsetT_within a b).1

end ShapeVerif
