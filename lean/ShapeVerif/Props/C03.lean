/-
C03 — A shape accepts every sample it was inferred from (completeness of `is_subset` along merging),
and every shape is accepted by itself.
-/
import ShapeVerif.Lemmas.MergeInvariants
import ShapeVerif.Lemmas.SubsetKeeps
import ShapeVerif.Props.C01
namespace ShapeVerif
open Shape Std

theorem foldl_merger_accepts : ∀ (ss : List Shape) (acc : Shape), acc.wf = true → acc.tupleFlat = true →
    (∀ s ∈ ss, s.wf = true ∧ s.plain = true) →
    (∀ s, s.plain = true → isSubset s acc = true → isSubset s (ss.foldl merger acc) = true) ∧
    (∀ s ∈ ss, isSubset s (ss.foldl merger acc) = true)
  | [], acc, _, _, _ => ⟨fun _ _ h => h, nofun⟩
  | b :: ss, acc, hw, hf, hss => by
    obtain ⟨hbw, hbp⟩ := hss b (List.mem_cons_self ..)
    obtain ⟨i1, i2⟩ := foldl_merger_accepts ss (merger acc b) (merger_wf hw hbw)
      (merger_tupleFlat hw hbw hf (plain_tupleFlat hbp)) fun s hs => hss s (List.mem_cons_of_mem _ hs)
    refine ⟨fun s hs hsub => i1 s hs (keeps hs hw hbw hf hbp hsub), fun s hs => ?_⟩
    rcases List.mem_cons.1 hs with rfl | hs
    · exact i1 s hbp (newSample hbp hw hbw)
    · exact i2 s hs

/-- **C03.** If a shape is inferred from a sequence of documents, the shape inferred from any single
document of the sequence is reported as a subset of the merged shape (all sequences, all orders). -/
theorem samples_accepted (h : List Doc) (s : Shape) (hs : fromSourcesDoc h = .ok s) :
    ∀ d ∈ h, ∃ sd, inferDoc d = .ok sd ∧ isSubset sd s = true := by
  obtain ⟨first, rest, hss, rfl⟩ := fromSourcesDoc_eq_ok_iff.1 hs
  have pw := inferDocList_ok_iff_pointwise.1 hss
  have hall : ∀ e ∈ first :: rest, e.wf = true ∧ e.plain = true := fun e he => by
    obtain ⟨d, _, hd⟩ := pw.mem_right e he
    exact infer_wf_plain d hd
  obtain ⟨hfw, hfp⟩ := hall first (List.mem_cons_self ..)
  obtain ⟨i1, i2⟩ := foldl_merger_accepts rest first hfw (plain_tupleFlat hfp)
    fun e he => hall e (List.mem_cons_of_mem _ he)
  intro d hd
  obtain ⟨sd, hsd, hdsd⟩ := pw.mem_left d hd
  refine ⟨sd, hdsd, ?_⟩
  rcases List.mem_cons.1 hsd with rfl | hsd
  · exact i1 sd hfp (subset_refl sd hfw)
  · exact i2 sd hsd

/-- the unchecked and checked superset queries on a document tree (the text layer is C04's subject) -/
def isSupersetDoc (s : Shape) (d : Doc) : Bool :=
  match inferDoc d with
  | .ok sd => isSubset sd s
  | .error _ => false

/-- `from_sources(h).is_superset(d)` for every `d` of `h` -/
theorem superset_of_sample (h : List Doc) (s : Shape) (hs : fromSourcesDoc h = .ok s) :
    ∀ d ∈ h, isSupersetDoc s d = true := by
  intro d hd
  obtain ⟨sd, hsd, hsub⟩ := samples_accepted h s hs d hd
  simp [isSupersetDoc, hsd, hsub]

/-- `subset_refl` (C10) under the name the checks use for C03. -/
theorem self_accepted (s : Shape) (hw : s.wf = true) : isSubset s s = true := subset_refl s hw

/-- non-vacuity, with the three D6 witnesses that were rejected before the repair -/
example :
    (∃ s, fromSourcesDoc [.null, .bool true, .num "1"] = .ok s ∧ isSupersetDoc s .null = true) ∧
    (∃ s, fromSourcesDoc [.arr [.num "1", .num "2"], .arr [.num "1", .str "a"], .bool true] = .ok s ∧
      isSupersetDoc s (.arr [.num "1", .num "2"]) = true) ∧
    (∃ s, fromSourcesDoc [.arr [], .num "1"] = .ok s ∧ isSupersetDoc s (.arr []) = true) := by
  refine ⟨⟨_, rfl, by decide⟩, ⟨_, rfl, by decide⟩, ⟨_, rfl, by decide⟩⟩

end ShapeVerif
