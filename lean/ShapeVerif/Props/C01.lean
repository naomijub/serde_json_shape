/-
C01 — Every source document conforms to the shape inferred from the sources; feeding further
documents never removes a previously admitted document. The core is `merger_sound`: a merge admits
whatever either operand admits, by induction on `Merged`; the tuple zip needs that `is_subset` is
sound (C02), every other arm follows from the equations of `Lemmas/MergeSem.lean`. A history is a left
fold of `merger` over the shapes of its documents (`fromSourcesDoc_eq_ok_iff`,
`fromSourcesDoc_append`), which lifts the statement to `from_sources`.

Known finding D3 (see `Model/Infer.lean`, `conflictFree`): an array of objects whose elements give
one key two different value shapes keeps only the first shape. The repository's own snapshot test
pins that behaviour, so the full statement is false of the code; the theorems below are proved
under `conflictFree`, which excludes that class, and the negation is proved on the witness.
-/
import ShapeVerif.Lemmas.InferSound
import ShapeVerif.Lemmas.MergeSem
import ShapeVerif.Lemmas.MergeInvariants
import ShapeVerif.Props.C02
namespace ShapeVerif
open Shape

theorem pickTuple_admits {a b c : Shape} (ha : a.wf = true) (hb : b.wf = true)
    (hp : pickTuple a b = some c) (x : Doc) : admits c x = (admits a x || admits b x) := by
  rcases pickTuple_cases hp with ⟨hs, rfl⟩ | ⟨hs, rfl⟩ | ⟨rfl, rfl⟩ | ⟨rfl, rfl⟩
  -- the wider of two comparable elements is picked, and `is_subset` is sound (C02)
  · exact (Bool.or_eq_right_iff_imp.2 (subset_sound a c hb hs x)).symm
  · exact (Bool.or_eq_left_iff_imp.2 (subset_sound b c ha hs x)).symm
  · rw [admits_asOptional_eq]
    rfl
  · rw [admits_asOptional_eq, Bool.or_comm]
    rfl

theorem Zipped.sound {es os folded : List Shape} (h : Zipped es os folded) :
    wfList es = true → wfList os = true → ∀ xs,
    admitsZip es xs = true ∨ admitsZip os xs = true → admitsZip folded xs = true := by
  induction h with
  | nil => exact fun _ _ xs h => h.elim id id
  | cons hc _ ih =>
    intro he ho xs h
    simp only [wfList, Bool.and_eq_true] at he ho
    cases xs with
    | nil => simp [admitsZip] at h
    | cons x xs =>
      simp only [admitsZip, Bool.and_eq_true] at h ⊢
      refine ⟨?_, ih he.2 ho.2 xs (h.imp And.right And.right)⟩
      rw [pickTuple_admits he.1 ho.1 hc, Bool.or_eq_true]
      exact h.imp And.left And.left

theorem Merged.sound {a b r : Shape} (h : Merged a b r) : a.wf = true → b.wf = true →
    ∀ x, admits a x = true ∨ admits b x = true → admits r x = true := by
  -- where the result admits exactly the documents of the two operands there is nothing more to say
  have union {a b r : Shape} (hu : ∀ x, admits r x = (admits a x || admits b x)) (x : Doc)
      (h : admits a x = true ∨ admits b x = true) : admits r x = true := by
    rw [hu, Bool.or_eq_true]
    exact h
  induction h with
  | nullLeft b => exact fun _ _ => union fun x => by rw [admits_asOptional_eq, Bool.or_comm]; rfl
  | nullRight a => exact fun _ _ => union fun x => by rw [admits_asOptional_eq]; rfl
  | scalars k o p _ => exact fun _ _ => union (admits_withOptional_or k o p)
  | oneOfs vs o ws p => exact fun _ _ => union (admits_oneOf_setExtend vs ws o p)
  | intoRight a vs p _ => exact fun _ _ => union (admits_addToOneOf a vs p)
  | intoLeft vs o b _ => exact fun _ _ => union fun x => by rw [admits_addToOneOf, Bool.or_comm]
  | arrays t o t' p _ ih =>
    exact fun ha hb x h => h.elim
      (admits_array_mono (fun y hy => ih ha hb y (.inl hy)) (flag_or_left p))
      (admits_array_mono (fun y hy => ih ha hb y (.inr hy)) (flag_or_right o))
  | objects c o oc p _ ih =>
    intro ha hb x h
    rw [wf_object_iff] at ha hb
    exact object_arm (fun k v ov hv hov =>
      ih k v ov hv hov (ha.2 _ (mem_of_mapGet hv)) (hb.2 _ (mem_of_mapGet hov))) ha.1 hb.1 h
  | arrayTuple t o es p =>
    intro _ _ x h
    exact array_tuple x h
  | tupleArray es p t o =>
    intro _ _ x h
    exact array_tuple x h.symm
  | tuplesZip es o os p folded hz =>
    intro ha hb x h
    cases x with
    | null => exact Bool.or_eq_true_iff.2 h
    | arr xs => exact hz.sound ha hb xs h
    | _ => simp [admits] at h
  | tuplesUnion es o os p _ =>
    have hV (y : Doc) := (admits_oneOf_false (tupleUnionVariants es os) y).trans (admitsAny_tupleUnionVariants es os y)
    exact fun _ _ x h => h.elim
      (admits_tuple_to_array (fun e he y hy => by rw [hV, List.any_eq_true.2 ⟨e, he, hy⟩]; rfl) (flag_or_left p))
      (admits_tuple_to_array (fun e he y hy => by rw [hV, List.any_eq_true.2 ⟨e, he, hy⟩, Bool.or_true]) (flag_or_right o))
  | mixed a b _ => exact fun _ _ => union (admits_mixed a b)
where
  array_tuple {t : Shape} {o : Bool} {es : List Shape} {p : Bool} (x : Doc)
      (h : admits (.array t o) x = true ∨ admits (.tuple es p) x = true) :
      admits (.array (.oneOf (arrayTupleVariants t es) false) (o || p)) x = true := by
    have hV (y : Doc) := (admits_oneOf_false (arrayTupleVariants t es) y).trans (admitsAny_arrayTupleVariants t es y)
    exact h.elim (admits_array_mono (fun y hy => by rw [hV, hy]; rfl) (flag_or_left p))
      (admits_tuple_to_array (fun e he y hy => by rw [hV, List.any_eq_true.2 ⟨e, he, hy⟩, Bool.or_true]) (flag_or_right o))
  object_arm {c oc : Members} {o p : Bool} {x : Doc}
      (ih : ∀ k v ov, mapGet k c = some v → mapGet k oc = some ov →
        ∀ y, admits v y = true ∨ admits ov y = true → admits (merger v ov) y = true)
      (hc : sortedKeys c = true) (ho : sortedKeys oc = true)
      (h : admits (.object c o) x = true ∨ admits (.object oc p) x = true) :
      admits (.object (mergedContent c oc) (o || p)) x = true := by
    -- either operand is covered key by key by the merged map: under a common key by `ih`, under a
    -- one-sided key because the value became optional
    have hM := sortedKeys_mergedContent c oc
    rcases h with h | h
    · refine admits_object_mono hM (flag_or_left p) (fun k => ?_) h
      rw [mapGet_mergedContent hc ho]
      cases hv : mapGet k c <;> cases hov : mapGet k oc
      · trivial
      · exact admits_asOptional_null _
      · exact fun _ => admits_asOptional
      · exact fun d hd => ih k _ _ hv hov d (.inl hd)
    · refine admits_object_mono hM (flag_or_right o) (fun k => ?_) h
      rw [mapGet_mergedContent hc ho]
      cases hv : mapGet k c <;> cases hov : mapGet k oc
      · trivial
      · exact fun _ => admits_asOptional
      · exact admits_asOptional_null _
      · exact fun d hd => ih k _ _ hv hov d (.inr hd)

theorem merger_sound {a b : Shape} (ha : a.wf = true) (hb : b.wf = true) {x : Doc}
    (h : admits a x = true ∨ admits b x = true) : admits (merger a b) x = true :=
  (merged a b).sound ha hb x h

/-- `infer_sound` (Lemmas/InferSound.lean) under the name the checks use for C01. -/
theorem infer_sound_C01 {d : Doc} {s : Shape} (hcf : conflictFree d = true) (h : inferDoc d = .ok s) :
    admits s d = true := infer_sound hcf h

/-- `merger_sound` under the name the checks use: merging never evicts a document. -/
theorem merger_never_evicts {a b : Shape} (ha : a.wf = true) (hb : b.wf = true) {x : Doc}
    (h : admits a x = true ∨ admits b x = true) : admits (merger a b) x = true := merger_sound ha hb h

/-- `admits_asOptional` with `asOptional` spelt out, kept under its own name -/
theorem admits_flag_true {s : Shape} {x : Doc} (h : admits s x = true) : admits (withOptional true s) x = true :=
  admits_asOptional h

theorem foldl_merger_wf (ss : List Shape) (acc : Shape) (h : acc.wf = true) (hs : wfList ss = true) :
    (ss.foldl merger acc).wf = true :=
  List.foldlRecOn (motive := (Shape.wf · = true)) ss merger h fun _ hacc s hs' => merger_wf hacc (wfList_iff.1 hs s hs')

theorem foldl_merger_sound : ∀ (ss : List Shape) (acc : Shape), acc.wf = true → wfList ss = true →
    ∀ x, (admits acc x = true ∨ ∃ s ∈ ss, admits s x = true) → admits (ss.foldl merger acc) x = true
  | [], acc => fun _ _ x h => by
    rcases h with h | ⟨s, hs, _⟩
    · exact h
    · cases hs
  | s :: ss, acc => fun ha hs x h => by
    simp [wfList] at hs
    apply foldl_merger_sound ss (merger acc s) (merger_wf ha hs.1) hs.2 x
    rcases h with h | ⟨s', hs', hx⟩
    · exact Or.inl (merger_sound ha hs.1 (Or.inl h))
    · rcases List.mem_cons.1 hs' with rfl | hs'
      · exact Or.inl (merger_sound ha hs.1 (Or.inr hx))
      · exact Or.inr ⟨s', hs', hx⟩

theorem fromSourcesDoc_eq_ok_iff {h : List Doc} {s : Shape} : fromSourcesDoc h = .ok s ↔
    ∃ first rest, inferDocList h = .ok (first :: rest) ∧ s = rest.foldl merger first := by
  unfold fromSourcesDoc
  cases inferDocList h with
  | error e => simp
  | ok ss =>
    cases ss with
    | nil => simp [merge]
    | cons a as =>
      simp only [merge, Except.ok.injEq, List.cons.injEq]
      refine ⟨fun h => ⟨a, as, ⟨rfl, rfl⟩, h.symm⟩, ?_⟩
      rintro ⟨_, _, ⟨rfl, rfl⟩, h⟩
      exact h.symm

theorem fromSourcesDoc_wf {h : List Doc} {s : Shape} (hs : fromSourcesDoc h = .ok s) : s.wf = true := by
  obtain ⟨first, rest, hss, rfl⟩ := fromSourcesDoc_eq_ok_iff.1 hs
  have := (inferDocList_wf_noOneOfValues_flagOff hss).1
  simp only [wfList, Bool.and_eq_true] at this
  exact foldl_merger_wf rest first this.1 this.2

theorem fromSourcesDoc_append {h : List Doc} {s : Shape} (hs : fromSourcesDoc h = .ok s) (r : List Doc) :
    fromSourcesDoc (h ++ r) = match inferDocList r with
      | .ok rs => .ok (rs.foldl merger s)
      | .error e => .error (.infer e) := by
  obtain ⟨first, rest, hss, rfl⟩ := fromSourcesDoc_eq_ok_iff.1 hs
  unfold fromSourcesDoc
  rw [inferDocList_append, hss]
  cases inferDocList r <;> simp [merge]

/-- Every document of an accepted history is a member of the inferred shape (outside the D3
class); the shape is well formed by `fromSourcesDoc_wf`. -/
theorem fromSourcesDoc_admits {h : List Doc} {s : Shape} (hs : fromSourcesDoc h = .ok s)
    (hcf : ∀ d ∈ h, conflictFree d = true) : ∀ d ∈ h, admits s d = true := by
  obtain ⟨first, rest, hss, rfl⟩ := fromSourcesDoc_eq_ok_iff.1 hs
  have hwf := (inferDocList_wf_noOneOfValues_flagOff hss).1
  simp only [wfList, Bool.and_eq_true] at hwf
  intro d hd
  obtain ⟨sd, hsd, hdsd⟩ := (inferDocList_ok_iff_pointwise.1 hss).mem_left d hd
  have hadm : admits sd d = true := infer_sound (hcf d hd) hdsd
  apply foldl_merger_sound rest first hwf.1 hwf.2 d
  rcases List.mem_cons.1 hsd with rfl | hsd
  · exact Or.inl hadm
  · exact Or.inr ⟨sd, hsd, hadm⟩

/-- **C01, main statement.** For any non-empty sequence of documents on which single-document
inference succeeds (any order, any repetition), inference from the sequence succeeds and every
document of the sequence is a member of the resulting shape. -/
theorem sources_sound (h : List Doc) (hne : h ≠ [])
    (hok : ∀ d ∈ h, ∃ s, inferDoc d = .ok s) (hcf : ∀ d ∈ h, conflictFree d = true) :
    ∃ s, fromSourcesDoc h = .ok s ∧ s.wf = true ∧ ∀ d ∈ h, admits s d = true := by
  have hss : inferDocList h = .ok (h.map fun d => (inferDoc d).toOption.getD .null) := by
    rw [inferDocList_ok_iff_map, List.map_map]
    refine List.map_congr_left fun d hd => ?_
    obtain ⟨s, hs⟩ := hok d hd
    simp [hs, Except.toOption]
  cases h with
  | nil => exact absurd rfl hne
  | cons d ds =>
    have hs := fromSourcesDoc_eq_ok_iff.2 ⟨_, _, hss, rfl⟩
    exact ⟨_, hs, fromSourcesDoc_wf hs, fromSourcesDoc_admits hs hcf⟩

/-- **C01, monotonicity over any extension.** Feeding any number of further documents never removes a
previously admitted document from the shape (no side condition: holds for every history, D3 class
included). -/
theorem many_more (h r : List Doc) (s s' : Shape) (x : Doc)
    (h1 : fromSourcesDoc h = .ok s) (h2 : fromSourcesDoc (h ++ r) = .ok s')
    (hx : admits s x = true) : admits s' x = true := by
  rw [fromSourcesDoc_append h1] at h2
  cases hr : inferDocList r with
  | error e => simp [hr] at h2
  | ok rs =>
    simp only [hr, Except.ok.injEq] at h2
    subst h2
    exact foldl_merger_sound rs s (fromSourcesDoc_wf h1) (inferDocList_wf_noOneOfValues_flagOff hr).1 x (Or.inl hx)

/-- **C01, monotonicity in the history.** Feeding one more document never removes a previously
admitted document from the shape. -/
theorem one_more (h : List Doc) (d : Doc) (s s' : Shape) (x : Doc)
    (h1 : fromSourcesDoc h = .ok s) (h2 : fromSourcesDoc (h ++ [d]) = .ok s')
    (hx : admits s x = true) : admits s' x = true := many_more h [d] s s' x h1 h2 hx

/-- a successful longer history has a successful prefix (inference is per document; merging never fails) -/
theorem fromSourcesDoc_prefix (h : List Doc) (d : Doc) (s' : Shape) (hne : h ≠ [])
    (h2 : fromSourcesDoc (h ++ [d]) = .ok s') : ∃ s, fromSourcesDoc h = .ok s := by
  obtain ⟨first, rest, hss, _⟩ := fromSourcesDoc_eq_ok_iff.1 h2
  rw [inferDocList_append] at hss
  cases hh : inferDocList h with
  | error e => simp [hh] at hss
  | ok ss =>
    cases ss with
    | nil =>
      cases h with
      | nil => exact absurd rfl hne
      | cons _ _ => cases inferDocList_ok_iff_pointwise.1 hh
    | cons a as => exact ⟨_, fromSourcesDoc_eq_ok_iff.2 ⟨a, as, hh, rfl⟩⟩

/-! ### Known finding D3: the full statement is false of the code (and of the model) -/

/-- the witness: `[{"a":1},{"a":"s"}]` is not a member of its own inferred shape -/
theorem d3_counterexample :
    let d := Doc.arr [.obj [("a", .num "1")], .obj [("a", .str "s")]]
    ∃ s, inferDoc d = .ok s ∧ admits s d = false ∧ conflictFree d = false := by
  refine ⟨.array (.object [("a", .number false)] false) false, by rfl, by decide, by decide⟩

/-- non-vacuity: the hypotheses of `sources_sound` are met by a non-trivial history -/
example :
    let h := [Doc.arr [.num "1", .str "a"], .bool true, .arr [.obj [("k", .null)], .obj []], .arr []]
    h ≠ [] ∧ (∀ d ∈ h, conflictFree d = true) ∧ (∀ d ∈ h, ∃ s, inferDoc d = .ok s) := by
  refine ⟨by simp, by decide, ?_⟩
  intro d hd
  simp only [List.mem_cons, List.not_mem_nil, or_false] at hd
  rcases hd with rfl | rfl | rfl | rfl <;> exact ⟨_, rfl⟩

end ShapeVerif
