/-
Numbers: the lexer's staged scanner `scanNumber` against the RFC's `number` rule. The stages are the
same functions, except that the scanner skips an optional part where the rule fails (`1.`, `1e`), so
the rule's reading is always the scanner's (`scanNumber_of_number`). What the scanner takes is read
again, by the rule, from any text that continues with something that cannot extend a number
(`scanNumber_restart`); validity of the scanned text, and the prefix behaviour of `Rfc.number`, are
instances. The first part is about maximal runs (`takeWhileC`), which the stages are made of.
-/
import ShapeVerif.Ref.JsonText
namespace ShapeVerif

def HeadNot (p : Char → Bool) (x : List Char) : Prop := ∀ c ∈ x.head?, p c = false

@[simp] theorem headNot_nil (p : Char → Bool) : HeadNot p [] := by simp [HeadNot]
@[simp] theorem headNot_cons (p : Char → Bool) (c : Char) (x : List Char) : HeadNot p (c :: x) ↔ p c = false := by
  simp [HeadNot]

theorem takeWhileC_spec (p : Char → Bool) : ∀ cs : List Char,
    (takeWhileC p cs).1 ++ (takeWhileC p cs).2 = cs ∧ (∀ x ∈ (takeWhileC p cs).1, p x = true) ∧
      HeadNot p (takeWhileC p cs).2
  | [] => by simp [takeWhileC]
  | c :: cs => by
    obtain ⟨h1, h2, h3⟩ := takeWhileC_spec p cs
    unfold takeWhileC
    split
    · rename_i hc; exact ⟨by simp [h1], by simpa [hc] using h2, h3⟩
    · rename_i hc; exact ⟨rfl, by simp, by simpa using hc⟩

theorem takeWhileC_prefix {p : Char → Bool} {l r : List Char} (hl : ∀ x ∈ l, p x = true) (hr : HeadNot p r) :
    takeWhileC p (l ++ r) = (l, r) := by
  induction l with
  | nil =>
    cases r with
    | nil => rfl
    | cons c r => simp [takeWhileC, (headNot_cons p c r).1 hr]
  | cons a l ih => simp [takeWhileC, hl a (by simp), ih fun x hx => hl x (by simp [hx])]

open Rfc

theorem takeDigits_eq : takeWhileC isDigitC = digits := by
  funext cs
  induction cs with
  | nil => rfl
  | cons c cs ih => unfold takeWhileC digits; rw [ih]; rfl

theorem numSign_eq : numSign = minus := by funext cs; unfold numSign minus; rfl
theorem expSign_eq : expSign = sign := by funext cs; unfold expSign sign; rfl
theorem numInt_eq : numInt = intPart := by funext cs; unfold numInt intPart; rw [takeDigits_eq]; rfl

theorem numFrac_eq (cs : List Char) : numFrac cs = (fracPart cs).getD ([], cs) := by
  unfold numFrac fracPart
  split
  · rename_i r
    rw [takeDigits_eq]
    rcases h : digits r with ⟨_ | _, _⟩ <;> simp [h]
  · split
    · rename_i h; exact (h _ rfl).elim
    · rfl

theorem numExp_eq (cs : List Char) : numExp cs = (expPart cs).getD ([], cs) := by
  unfold numExp expPart
  split
  · split
    · rename_i e r he
      rw [takeDigits_eq, expSign_eq]
      rcases h : digits (sign r).2 with ⟨_ | _, _⟩ <;> simp [h, he]
    · rename_i he; simp [he]
  · rfl

theorem scanNumber_of_number {cs : List Char} {p : List Char × List Char} (h : number cs = some p) :
    scanNumber cs = some p := by
  unfold number at h
  unfold scanNumber
  simp only [numSign_eq, numInt_eq, numFrac_eq, numExp_eq]
  cases hi : intPart (minus cs).2 with
  | none => simp [hi] at h
  | some i =>
    obtain ⟨i, c2⟩ := i
    simp only [hi] at h
    cases hf : fracPart c2 with
    | none => simp [hf] at h
    | some f =>
      obtain ⟨f, c3⟩ := f
      simp only [hf] at h
      cases he : expPart c3 with
      | none => simp [he] at h
      | some e =>
        obtain ⟨e, c4⟩ := e
        simp only [he] at h
        simp only [hf, Option.getD_some, he, h]

theorem minus_cons (c : Char) (cs : List Char) :
    minus (c :: cs) = if c = '-' then (['-'], cs) else ([], c :: cs) := by
  unfold minus
  split
  · rename_i h; cases h; rfl
  · rename_i h; split
    · rename_i hc; subst hc; exact (h _ rfl).elim
    · rfl

theorem sign_cons (c : Char) (cs : List Char) :
    sign (c :: cs) = if c = '+' then (['+'], cs) else if c = '-' then (['-'], cs) else ([], c :: cs) := by
  unfold sign
  split
  · rename_i h; cases h; rfl
  · rename_i h; cases h; rfl
  · rename_i h1 h2
    split
    · rename_i hc; subst hc; exact (h1 _ rfl).elim
    · split
      · rename_i hc; subst hc; exact (h2 _ rfl).elim
      · rfl

theorem intPart_cons (c : Char) (cs : List Char) :
    intPart (c :: cs) = if c = '0' then some (['0'], cs)
      else if isDigit19 c then some (c :: (digits cs).1, (digits cs).2) else none := by
  unfold intPart
  split
  · rename_i h; cases h; rfl
  · rename_i h1 h; cases h
    rw [if_neg (fun hc => h1 hc)]
  · rename_i h; cases h

theorem fracPart_cons (c : Char) (cs : List Char) :
    fracPart (c :: cs) = if c = '.' then (if (digits cs).1 = [] then none else some ('.' :: (digits cs).1, (digits cs).2))
      else some ([], c :: cs) := by
  unfold fracPart
  split
  · rename_i h; cases h
    rcases digits cs with ⟨_ | _, _⟩ <;> simp
  · rename_i h; split
    · rename_i hc; subst hc; exact (h _ rfl).elim
    · rfl

theorem expPart_cons (x : Char) (cs : List Char) :
    expPart (x :: cs) = if (x == 'e' || x == 'E') = true then
        (if (digits (sign cs).2).1 = [] then none
         else some (x :: (sign cs).1 ++ (digits (sign cs).2).1, (digits (sign cs).2).2))
      else some ([], x :: cs) := by
  unfold expPart
  rcases h : digits (sign cs).2 with ⟨_ | _, _⟩ <;> simp [h]

theorem numFrac_cases (cs : List Char) : numFrac cs = ([], cs) ∨
    ∃ r, cs = '.' :: r ∧ (digits r).1 ≠ [] ∧ numFrac cs = ('.' :: (digits r).1, (digits r).2) := by
  cases cs with
  | nil => exact .inl rfl
  | cons c cs =>
    rw [numFrac_eq, fracPart_cons]
    by_cases hc : c = '.'
    · subst hc
      rw [if_pos rfl]
      by_cases hd : (digits cs).1 = []
      · rw [if_pos hd]; exact .inl rfl
      · rw [if_neg hd]; exact .inr ⟨cs, rfl, hd, rfl⟩
    · rw [if_neg hc]; exact .inl rfl

theorem numExp_cases (cs : List Char) : numExp cs = ([], cs) ∨
    ∃ x r, cs = x :: r ∧ (x == 'e' || x == 'E') = true ∧ (digits (sign r).2).1 ≠ [] ∧
      numExp cs = (x :: (sign r).1 ++ (digits (sign r).2).1, (digits (sign r).2).2) := by
  cases cs with
  | nil => exact .inl rfl
  | cons x cs =>
    rw [numExp_eq, expPart_cons]
    by_cases hx : (x == 'e' || x == 'E') = true
    · rw [if_pos hx]
      by_cases hd : (digits (sign cs).2).1 = []
      · rw [if_pos hd]; exact .inl rfl
      · rw [if_neg hd]; exact .inr ⟨x, cs, rfl, hx, hd, rfl⟩
    · rw [if_neg hx]; exact .inl rfl

theorem digits_restart (cs : List Char) {y : List Char} (hy : HeadNot isDigitC y) :
    digits ((digits cs).1 ++ y) = ((digits cs).1, y) := by
  rw [← takeDigits_eq]
  exact takeWhileC_prefix (takeWhileC_spec _ cs).2.1 hy

theorem minus_restart (cs : List Char) {z : List Char} (hz : ∀ c ∈ z.head?, c ≠ '-') :
    minus ((minus cs).1 ++ z) = ((minus cs).1, z) := by
  have skip : minus ([] ++ z) = ([], z) := by
    cases z with
    | nil => rfl
    | cons c z => rw [List.nil_append, minus_cons, if_neg (hz c rfl)]
  cases cs with
  | nil => exact skip
  | cons c cs =>
    rw [minus_cons]
    split
    · rfl
    · exact skip

theorem sign_restart (cs : List Char) {z : List Char} (hz : ∀ c ∈ z.head?, c ≠ '+' ∧ c ≠ '-') :
    sign ((sign cs).1 ++ z) = ((sign cs).1, z) := by
  have skip : sign ([] ++ z) = ([], z) := by
    cases z with
    | nil => rfl
    | cons c z => rw [List.nil_append, sign_cons, if_neg (hz c rfl).1, if_neg (hz c rfl).2]
  cases cs with
  | nil => exact skip
  | cons c cs =>
    rw [sign_cons]
    split
    · rfl
    · split
      · rfl
      · exact skip

theorem intPart_restart {cs i r y : List Char} (h : intPart cs = some (i, r)) (hy : HeadNot isDigitC y) :
    intPart (i ++ y) = some (i, y) ∧ ∃ c tl, i = c :: tl ∧ isDigitC c = true := by
  cases cs with
  | nil => cases h
  | cons c cs =>
    rw [intPart_cons] at h
    split at h
    · cases h; exact ⟨rfl, _, _, rfl, by decide⟩
    · rename_i h0
      split at h
      · rename_i h19
        cases h
        refine ⟨?_, _, _, rfl, ?_⟩
        · rw [List.cons_append, intPart_cons, if_neg h0, if_pos h19, digits_restart cs hy]
        · simp only [isDigit19, isDigitC, Bool.and_eq_true, decide_eq_true_eq] at h19 ⊢
          exact ⟨Char.le_trans (by decide) h19.1, h19.2⟩
      · cases h

theorem fracPart_restart (cs : List Char) {y : List Char} (hy : HeadNot isDigitC y) (hdot : ∀ c ∈ y.head?, c ≠ '.') :
    fracPart ((numFrac cs).1 ++ y) = some ((numFrac cs).1, y) ∧ ∀ c ∈ (numFrac cs).1.head?, c = '.' := by
  rcases numFrac_cases cs with h | ⟨r, rfl, hne, h⟩
  · rw [h]
    refine ⟨?_, fun c hc => by cases hc⟩
    cases y with
    | nil => rfl
    | cons c y => rw [List.nil_append, fracPart_cons, if_neg (hdot c rfl)]
  · rw [h]
    refine ⟨?_, fun c hc => by cases hc; rfl⟩
    rw [List.cons_append, fracPart_cons, if_pos rfl, digits_restart r hy, if_neg hne]

theorem expPart_restart (cs : List Char) {y : List Char} (hy : HeadNot isDigitC y)
    (he : ∀ c ∈ y.head?, c ≠ 'e' ∧ c ≠ 'E') :
    expPart ((numExp cs).1 ++ y) = some ((numExp cs).1, y) ∧ ∀ c ∈ (numExp cs).1.head?, c = 'e' ∨ c = 'E' := by
  rcases numExp_cases cs with h | ⟨x, r, rfl, hx, hne, h⟩
  · rw [h]
    refine ⟨?_, fun c hc => by cases hc⟩
    cases y with
    | nil => rfl
    | cons c y =>
      have hc : ¬ (c == 'e' || c == 'E') = true := by simp [(he c rfl).1, (he c rfl).2]
      rw [List.nil_append, expPart_cons, if_neg hc]
  · rw [h]
    refine ⟨?_, fun c hc => by cases hc; simpa using hx⟩
    -- the digits that follow the sign are not themselves a sign
    obtain ⟨d, ds, hd⟩ := List.exists_cons_of_ne_nil hne
    have hdig : isDigitC d = true := by
      have := (takeWhileC_spec isDigitC (sign r).2).2.1 d
      rw [takeDigits_eq, hd] at this
      exact this (List.mem_cons_self ..)
    have hs := sign_restart r (z := (digits (sign r).2).1 ++ y) (by
      rw [hd]
      intro c hc
      cases hc
      constructor <;> (rintro rfl; cases hdig))
    simp only [List.cons_append, List.append_assoc]
    rw [expPart_cons, if_pos hx, hs, digits_restart _ hy, if_neg hne]
    rfl

def NumStop (y : List Char) : Prop := ∀ c ∈ y.head?, isDigitC c = false ∧ c ≠ '.' ∧ c ≠ 'e' ∧ c ≠ 'E'

theorem NumStop.digit {y : List Char} (h : NumStop y) : HeadNot isDigitC y := fun c hc => (h c hc).1

theorem head?_append {P : Char → Prop} {a b : List Char} (ha : ∀ c ∈ a.head?, P c) (hb : ∀ c ∈ b.head?, P c) :
    ∀ c ∈ (a ++ b).head?, P c := by
  cases a with
  | nil => exact hb
  | cons x a => exact ha

theorem scanNumber_restart {cs n r x : List Char} (h : scanNumber cs = some (n, r)) (hx : NumStop x) :
    number (n ++ x) = some (n, x) := by
  unfold scanNumber at h
  simp only [numSign_eq, numInt_eq] at h
  cases hi : intPart (minus cs).2 with
  | none => simp [hi] at h
  | some ic =>
    obtain ⟨i, c2⟩ := ic
    simp only [hi, Option.some.injEq, Prod.mk.injEq] at h
    obtain ⟨rfl, _⟩ := h
    -- from the last stage backwards: each stage is followed by what the later ones took, then `x`
    obtain ⟨he, he'⟩ := expPart_restart (numFrac c2).2 hx.digit (fun c hc => (hx c hc).2.2)
    obtain ⟨hf, hf'⟩ := fracPart_restart c2 (y := (numExp (numFrac c2).2).1 ++ x)
      (head?_append (fun c hc => by rcases he' c hc with rfl | rfl <;> rfl) hx.digit)
      (head?_append (fun c hc => by rcases he' c hc with rfl | rfl <;> decide) (fun c hc => (hx c hc).2.1))
    obtain ⟨hi1, d, tl, rfl, hdig⟩ := intPart_restart hi (y := (numFrac c2).1 ++ ((numExp (numFrac c2).2).1 ++ x))
      (head?_append (fun c hc => by rw [hf' c hc]; rfl)
        (head?_append (fun c hc => by rcases he' c hc with rfl | rfl <;> rfl) hx.digit))
    have hm := minus_restart cs (z := d :: tl ++ ((numFrac c2).1 ++ ((numExp (numFrac c2).2).1 ++ x)))
      (fun c hc => by cases hc; rintro rfl; cases hdig)
    unfold number
    simp only [List.append_assoc, hm, hi1, hf, he]

theorem digits_split (cs : List Char) : (digits cs).1 ++ (digits cs).2 = cs := by
  rw [← takeDigits_eq]; exact (takeWhileC_spec _ cs).1

theorem minus_split (cs : List Char) : (minus cs).1 ++ (minus cs).2 = cs := by
  cases cs with
  | nil => rfl
  | cons c cs => rw [minus_cons]; split <;> simp [*]

theorem sign_split (cs : List Char) : (sign cs).1 ++ (sign cs).2 = cs := by
  cases cs with
  | nil => rfl
  | cons c cs =>
    rw [sign_cons]
    split
    · simp [*]
    · split <;> simp [*]

theorem intPart_split {cs i r : List Char} (h : intPart cs = some (i, r)) : i ++ r = cs := by
  cases cs with
  | nil => cases h
  | cons c cs =>
    rw [intPart_cons] at h
    split at h
    · cases h; simp [*]
    · split at h
      · cases h; simp [digits_split]
      · cases h

theorem numFrac_split (cs : List Char) : (numFrac cs).1 ++ (numFrac cs).2 = cs := by
  rcases numFrac_cases cs with h | ⟨r, rfl, _, h⟩ <;> rw [h]
  · rfl
  · exact congrArg ('.' :: ·) (digits_split r)

theorem numExp_split (cs : List Char) : (numExp cs).1 ++ (numExp cs).2 = cs := by
  rcases numExp_cases cs with h | ⟨x, r, rfl, _, _, h⟩ <;> rw [h]
  · rfl
  · simp only [List.cons_append, List.append_assoc, digits_split, sign_split]

theorem scanNumber_split {cs n rest : List Char} (h : scanNumber cs = some (n, rest)) :
    n ++ rest = cs ∧ ∃ c tl, n = c :: tl ∧ (c = '-' ∨ isDigitC c = true) := by
  unfold scanNumber at h
  simp only [numSign_eq, numInt_eq] at h
  cases hi : intPart (minus cs).2 with
  | none => simp [hi] at h
  | some ic =>
    obtain ⟨i, c2⟩ := ic
    simp only [hi, Option.some.injEq, Prod.mk.injEq] at h
    obtain ⟨rfl, rfl⟩ := h
    constructor
    · simp only [List.append_assoc, numExp_split, numFrac_split, intPart_split hi, minus_split]
    · obtain ⟨_, d, tl, rfl, hd⟩ := intPart_restart hi (headNot_nil _)
      cases cs with
      | nil => exact ⟨d, _, rfl, .inr hd⟩
      | cons c cs =>
        rw [minus_cons]
        split
        · exact ⟨'-', _, rfl, .inl rfl⟩
        · exact ⟨d, _, rfl, .inr hd⟩

theorem scanNumber_valid {cs n rest : List Char} (h : scanNumber cs = some (n, rest)) :
    Rfc.number n = some (n, []) := by
  have h0 : NumStop [] := fun c hc => by cases hc
  simpa using scanNumber_restart h h0

theorem number_self {cs n r : List Char} (h : number cs = some (n, r)) : cs = n ++ r ∧ number n = some (n, []) :=
  ⟨(scanNumber_split (scanNumber_of_number h)).1.symm, scanNumber_valid (scanNumber_of_number h)⟩

theorem number_head {n : List Char} (h : Rfc.number n = some (n, [])) :
    ∃ c tl, n = c :: tl ∧ (c = '-' ∨ isDigitC c = true) :=
  (scanNumber_split (scanNumber_of_number h)).2

/-- the follow set of a number or a literal name in the RFC's grammar -/
def ValueFollow (rest : List Char) : Prop :=
  ∀ c tl, rest = c :: tl → (Rfc.isWs c = true ∨ c = ',' ∨ c = ']' ∨ c = '}')

theorem ValueFollow.mem {rest : List Char} (h : ValueFollow rest) :
    ∀ c ∈ rest.head?, c ∈ [' ', '\t', '\n', '\r', ',', ']', '}'] := by
  intro c hc
  cases rest with
  | nil => cases hc
  | cons a tl =>
    cases hc
    have := h c tl rfl
    simp only [isWs, Bool.or_eq_true, beq_iff_eq] at this
    rcases this with (((rfl | rfl) | rfl) | rfl) | rfl | rfl | rfl <;> decide

theorem ValueFollow.numStop {rest : List Char} (h : ValueFollow rest) : NumStop rest := fun c hc =>
  (by decide : ∀ c ∈ [' ', '\t', '\n', '\r', ',', ']', '}'], isDigitC c = false ∧ c ≠ '.' ∧ c ≠ 'e' ∧ c ≠ 'E')
    c (h.mem c hc)

theorem number_follow {n rest : List Char} (h : Rfc.number n = some (n, [])) (hf : ValueFollow rest) :
    Rfc.number (n ++ rest) = some (n, rest) :=
  scanNumber_restart (scanNumber_of_number h) hf.numStop

theorem scanNumber_follow {n rest : List Char} (h : Rfc.number n = some (n, [])) (hf : ValueFollow rest) :
    scanNumber (n ++ rest) = some (n, rest) :=
  scanNumber_of_number (number_follow h hf)

end ShapeVerif
