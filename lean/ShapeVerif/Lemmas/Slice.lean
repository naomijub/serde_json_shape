/-
Byte offsets on character boundaries, and `sliceBytes` (`&source[a..b]`): it succeeds exactly on
ordered pairs of boundaries and returns the characters between them. `At src pos cs` names the text that
follows a boundary: the lexer invariants and the `Rfc.parse` proofs thread positions with it. Also which
characters are one byte long (`utf8Size_of_lt`, `isHexC_size`).
-/
import ShapeVerif.Model.ParseCst
namespace ShapeVerif

theorem utf8Len_foldl (cs : List Char) (n : Nat) :
    cs.foldl (fun n c => n + c.utf8Size) n = n + utf8Len cs := by
  unfold utf8Len
  induction cs generalizing n with
  | nil => rfl
  | cons c cs ih => rw [List.foldl_cons, List.foldl_cons, ih, ih (0 + c.utf8Size), Nat.zero_add, Nat.add_assoc]

@[simp] theorem utf8Len_nil : utf8Len [] = 0 := rfl

@[simp] theorem utf8Len_cons (c : Char) (cs : List Char) : utf8Len (c :: cs) = c.utf8Size + utf8Len cs := by
  rw [utf8Len, List.foldl_cons, utf8Len_foldl, Nat.zero_add]

@[simp] theorem utf8Len_append (a b : List Char) : utf8Len (a ++ b) = utf8Len a + utf8Len b := by
  induction a with
  | nil => rw [List.nil_append, utf8Len_nil, Nat.zero_add]
  | cons c a ih => rw [List.cons_append, utf8Len_cons, utf8Len_cons, ih, Nat.add_assoc]

theorem utf8Len_pos_of_ne_nil {cs : List Char} (h : cs ≠ []) : 1 ≤ utf8Len cs := by
  cases cs with
  | nil => exact absurd rfl h
  | cons c cs =>
    rw [utf8Len_cons]
    exact Nat.le_trans c.utf8Size_pos (Nat.le_add_right _ _)

def Boundary (src : List Char) (n : Nat) : Prop := ∃ p s, src = p ++ s ∧ utf8Len p = n

theorem boundary_zero (src : List Char) : Boundary src 0 := ⟨[], src, rfl, rfl⟩

theorem boundary_len (src : List Char) : Boundary src (utf8Len src) := ⟨src, [], by simp, rfl⟩

theorem prefix_of_le : ∀ (p q s t : List Char), p ++ s = q ++ t → utf8Len p ≤ utf8Len q → ∃ m, q = p ++ m
  | [], q, _, _, _, _ => ⟨q, rfl⟩
  | c :: p, [], _, _, _, hl => by
    have := utf8Len_pos_of_ne_nil (List.cons_ne_nil c p)
    rw [utf8Len_nil] at hl
    omega
  | c :: p, c' :: q, s, t, h, hl => by
    simp only [List.cons_append, List.cons.injEq] at h
    obtain ⟨rfl, h⟩ := h
    simp only [utf8Len_cons] at hl
    obtain ⟨m, hm⟩ := prefix_of_le p q s t h (Nat.le_of_add_le_add_left hl)
    exact ⟨m, by rw [hm]; rfl⟩

theorem prefix_unique : ∀ {p p' s s' : List Char}, p ++ s = p' ++ s' → utf8Len p = utf8Len p' → p = p' ∧ s = s' := by
  intro p p' s s' h hl
  obtain ⟨m, rfl⟩ := prefix_of_le p p' s s' h (Nat.le_of_eq hl)
  have hm : m = [] := by
    refine Classical.byContradiction fun hne => ?_
    have := utf8Len_pos_of_ne_nil hne
    rw [utf8Len_append] at hl
    omega
  subst hm
  simpa using h

theorem toNat_le_of_le {c d : Char} (h : c ≤ d) : c.toNat ≤ d.toNat := Char.le_def.1 h

theorem utf8Size_of_lt {c : Char} (h : c.toNat < 128) : c.utf8Size = 1 := by
  unfold Char.utf8Size
  have : c.val ≤ 127 := by
    show c.val.toNat ≤ 127
    have : c.toNat = c.val.toNat := rfl
    omega
  simp [this]

theorem isHexC_size {h : Char} (hh : isHexC h = true) : h.utf8Size = 1 := by
  apply utf8Size_of_lt
  simp only [isHexC, isDigitC, Bool.or_eq_true, Bool.and_eq_true, decide_eq_true_eq] at hh
  have e9 : ('9' : Char).toNat = 57 := rfl
  have ef : ('f' : Char).toNat = 102 := rfl
  have eF : ('F' : Char).toNat = 70 := rfl
  rcases hh with (⟨_, h2⟩ | ⟨_, h2⟩) | ⟨_, h2⟩ <;>
    (have := toNat_le_of_le h2; omega)

theorem sliceBytes_go_collect (start : Nat) : ∀ (m s acc : List Char) (pos : Nat), start ≤ pos →
    sliceBytes.go start (pos + utf8Len m) (m ++ s) pos acc = some (acc.reverse ++ m)
  | [], s, acc, pos, hp => by
    unfold sliceBytes.go
    simp [hp]
  | c :: m, s, acc, pos, hp => by
    rw [utf8Len_cons, ← Nat.add_assoc, List.cons_append]
    unfold sliceBytes.go
    have h1 : (pos == pos + c.utf8Size + utf8Len m) = false :=
      beq_eq_false_iff_ne.2 (Nat.ne_of_lt (Nat.lt_of_lt_of_le (Nat.lt_add_of_pos_right c.utf8Size_pos) (Nat.le_add_right _ _)))
    have h2 : ¬ pos < start := Nat.not_lt.2 hp
    have h3 : ¬ pos + c.utf8Size > pos + c.utf8Size + utf8Len m := Nat.not_lt.2 (Nat.le_add_right _ _)
    simp only [h1, Bool.false_eq_true, if_false, h2, h3]
    rw [sliceBytes_go_collect start m s (c :: acc) (pos + c.utf8Size) (Nat.le_trans hp (Nat.le_add_right _ _))]
    simp

theorem sliceBytes_go_skip : ∀ (p m s acc : List Char) (pos : Nat),
    sliceBytes.go (pos + utf8Len p) (pos + utf8Len p + utf8Len m) (p ++ m ++ s) pos acc = some (acc.reverse ++ m)
  | [], m, s, acc, pos => sliceBytes_go_collect pos m s acc pos (Nat.le_refl _)
  | c :: p, m, s, acc, pos => by
    rw [utf8Len_cons, ← Nat.add_assoc, List.cons_append, List.cons_append]
    unfold sliceBytes.go
    have hlt : pos < pos + c.utf8Size + utf8Len p :=
      Nat.lt_of_lt_of_le (Nat.lt_add_of_pos_right c.utf8Size_pos) (Nat.le_add_right _ _)
    have h1 : (pos == pos + c.utf8Size + utf8Len p + utf8Len m) = false :=
      beq_eq_false_iff_ne.2 (Nat.ne_of_lt (Nat.lt_of_lt_of_le hlt (Nat.le_add_right _ _)))
    have h3 : ¬ pos + c.utf8Size > pos + c.utf8Size + utf8Len p := Nat.not_lt.2 (Nat.le_add_right _ _)
    simp only [h1, Bool.false_eq_true, if_false, hlt, if_true, h3]
    exact sliceBytes_go_skip p m s acc (pos + c.utf8Size)

theorem sliceBytes_of_split (p m s : List Char) :
    sliceBytes (p ++ m ++ s) (utf8Len p) (utf8Len p + utf8Len m) = some m := by
  unfold sliceBytes
  rw [if_neg (Nat.not_lt.2 (Nat.le_add_right _ _))]
  have := sliceBytes_go_skip p m s [] 0
  rw [Nat.zero_add] at this
  exact this

/-- `cs` is the rest of `src` from byte `pos` on: how positions are threaded along a scan of the text -/
def At (src : List Char) (pos : Nat) (cs : List Char) : Prop := ∃ pre, src = pre ++ cs ∧ utf8Len pre = pos

theorem At.boundary {src : List Char} {pos : Nat} {cs : List Char} (h : At src pos cs) : Boundary src pos :=
  h.imp fun _ h => ⟨cs, h⟩

theorem At.advance {src : List Char} {pos : Nat} {a b : List Char} (h : At src pos (a ++ b)) :
    At src (pos + utf8Len a) b := by
  obtain ⟨pre, rfl, rfl⟩ := h
  exact ⟨pre ++ a, (List.append_assoc ..).symm, utf8Len_append ..⟩

theorem At.slice {src : List Char} {pos : Nat} {txt rest : List Char} (h : At src pos (txt ++ rest)) :
    sliceBytes src pos (pos + utf8Len txt) = some txt := by
  obtain ⟨pre, rfl, rfl⟩ := h
  rw [← List.append_assoc]
  exact sliceBytes_of_split pre txt rest

theorem sliceBytes_of_boundaries {src : List Char} {a b : Nat} (ha : Boundary src a) (hb : Boundary src b)
    (hab : a ≤ b) : ∃ m, sliceBytes src a b = some m := by
  obtain ⟨p, s, hs, rfl⟩ := ha
  obtain ⟨q, t, ht, rfl⟩ := hb
  obtain ⟨m, rfl⟩ := prefix_of_le p q s t (by rw [← hs, ← ht]) hab
  rw [utf8Len_append, ht]
  exact ⟨m, sliceBytes_of_split p m t⟩

/-- what the loop of `sliceBytes` has done when it succeeds, in either phase: skipped `p` up to `start`
(nothing, once past it) and collected `m` up to `stop` -/
theorem sliceBytes_go_spec (start stop : Nat) (cs : List Char) (pos : Nat) (acc r : List Char)
    (h : sliceBytes.go start stop cs pos acc = some r) :
    ∃ p m s, cs = p ++ m ++ s ∧ r = acc.reverse ++ m ∧
      (pos ≤ start → pos + utf8Len p = start ∧ start + utf8Len m = stop) ∧
      (start ≤ pos → p = [] ∧ pos + utf8Len m = stop) := by
  fun_induction sliceBytes.go start stop cs pos acc
  case case1 cs pos acc he hle =>
    cases h
    cases beq_iff_eq.1 he
    exact ⟨[], [], cs, rfl, by simp, fun hp => ⟨Nat.le_antisymm hp hle, Nat.le_antisymm hle hp⟩, fun _ => ⟨rfl, rfl⟩⟩
  case case5 pos acc _ c rest hlt hle ih =>
    obtain ⟨p, m, s, rfl, e2, e4, _⟩ := ih h
    refine ⟨c :: p, m, s, rfl, e2, fun _ => ?_, fun hp => absurd hlt (Nat.not_lt.2 hp)⟩
    rw [utf8Len_cons, ← Nat.add_assoc]
    exact e4 (Nat.not_lt.1 hle)
  case case7 pos acc _ c rest hge hle ih =>
    obtain ⟨p, m, s, e1, e2, _, e5⟩ := ih h
    obtain ⟨rfl, e6⟩ := e5 (Nat.le_trans (Nat.not_lt.1 hge) (Nat.le_add_right _ _))
    have e7 : pos + utf8Len (c :: m) = stop := by rw [utf8Len_cons, ← Nat.add_assoc]; exact e6
    refine ⟨[], c :: m, s, by rw [e1]; rfl, by rw [e2]; simp, fun hp => ?_, fun _ => ⟨rfl, e7⟩⟩
    cases Nat.le_antisymm hp (Nat.not_lt.1 hge)
    exact ⟨rfl, e7⟩
  all_goals cases h

theorem sliceBytes_spec {src : List Char} {a b : Nat} {m : List Char} (h : sliceBytes src a b = some m) :
    ∃ p s, src = p ++ m ++ s ∧ utf8Len p = a ∧ a + utf8Len m = b := by
  unfold sliceBytes at h
  split at h
  · cases h
  · obtain ⟨p, m', s, e1, e2, e3, _⟩ := sliceBytes_go_spec a b src 0 [] m h
    obtain ⟨h1, h2⟩ := e3 (Nat.zero_le _)
    rw [List.reverse_nil, List.nil_append] at e2
    subst e2
    exact ⟨p, s, e1, by rw [← h1, Nat.zero_add], h2⟩

theorem boundary_of_slice {src : List Char} {a b : Nat} {m : List Char} (h : sliceBytes src a b = some m) :
    Boundary src a ∧ Boundary src b ∧ a ≤ b := by
  obtain ⟨p, s, e, rfl, rfl⟩ := sliceBytes_spec h
  exact ⟨⟨p, m ++ s, by rw [e, List.append_assoc], rfl⟩, ⟨p ++ m, s, e, utf8Len_append p m⟩, Nat.le_add_right _ _⟩

end ShapeVerif
