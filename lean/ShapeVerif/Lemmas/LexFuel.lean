/-
`tokenize` is modelled with fuel = number of characters (`Model/Lexer.lean`); at fuel 0 the loop
returns what it has. The real `tokenize` is a `while let Some(..) = lexer.next()` loop without a
counter, so the model says something about it only if that cut-off is reached on empty input alone.
`lexLoopO` is the twin that fails when the fuel runs out with input left; `lexLoopO_eq` shows it
never fails from `tokenize`'s initial fuel (every `lexOne` step consumes at least one character),
and that it returns the model's result.
-/
import ShapeVerif.Lemmas.LexRun
namespace ShapeVerif

def lexLoopO : Nat → List Char → Nat → Int → Int → List Token → List Diag → Option LexResult
  | 0, [], _, _, _, toks, diags => some ⟨toks.reverse, diags.reverse⟩
  | 0, _ :: _, _, _, _, _, _ => none
  | fuel + 1, cs, pos, nBrace, nBrak, toks, diags =>
    match cs with
    | [] => some ⟨toks.reverse, diags.reverse⟩
    | _ =>
      let r := lexOne cs
      let kind := r.1
      let text := r.2.2.1
      let rest := r.2.2.2
      let stop := pos + utf8Len text
      match r.2.1 with
      | some dk =>
        lexLoopO fuel rest stop nBrace nBrak (⟨.error, pos, stop⟩ :: toks) (⟨dk, pos, stop⟩ :: diags)
      | none =>
        let diags1 := if kind == .string then (checkString pos text).reverse ++ diags else diags
        let nBrace' := if kind == .lbrace then nBrace + 1 else if kind == .rbrace then nBrace - 1 else nBrace
        let nBrak' := if kind == .lbrak then nBrak + 1 else if kind == .rbrak then nBrak - 1 else nBrak
        if nBrace' + nBrak' > 256 then
          some ⟨toks.reverse, (⟨.tooDeep, pos, stop⟩ :: diags1).reverse⟩
        else lexLoopO fuel rest stop nBrace' nBrak' (⟨kind, pos, stop⟩ :: toks) diags1

theorem lexLoopO_eq : ∀ (fuel : Nat) (cs : List Char) (pos : Nat) (nb nk : Int) (toks : List Token) (diags : List Diag),
    cs.length ≤ fuel → lexLoopO fuel cs pos nb nk toks diags = some (lexLoop fuel cs pos nb nk toks diags)
  | 0, [], _, _, _, _, _, _ => by simp [lexLoopO, lexLoop]
  | 0, _ :: _, _, _, _, _, _, h => by simp at h
  | fuel + 1, [], _, _, _, _, _, _ => by simp [lexLoopO, lexLoop]
  | fuel + 1, c :: cs, pos, nb, nk, toks, diags, h => by
    have hl := lexOne_rest_lt (List.cons_ne_nil c cs)
    have hle : (lexOne (c :: cs)).2.2.2.length ≤ fuel := by simp at h hl ⊢; omega
    simp only [lexLoopO, lexLoop]
    cases hd : (lexOne (c :: cs)).2.1 with
    | some dk => exact lexLoopO_eq fuel _ _ _ _ _ _ hle
    | none =>
      simp only []
      rw [apply_ite some]
      exact ite_congr rfl (fun _ => rfl) (fun _ => lexLoopO_eq fuel _ _ _ _ _ _ hle)

theorem tokenize_never_exhausts_fuel (cs : List Char) :
    lexLoopO cs.length cs 0 0 0 [] [] = some (tokenize cs) :=
  lexLoopO_eq cs.length cs 0 0 0 [] [] (Nat.le_refl _)

end ShapeVerif
