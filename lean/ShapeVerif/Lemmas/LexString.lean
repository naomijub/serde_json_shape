/-
Strings: `StrBody` is the RFC's string body (§7) as a set of character sequences. The RFC reader
`Rfc.stringBody`, the lexer's `scanString` and its `checkStringGo` are each characterised against it;
that a `String` token text without diagnostics is an RFC string (`string_token_valid`) and the prefix
behaviour of `Rfc.stringBody` follow; `scanString_body` and `checkString_body` are what `lexOne_complete`
(Lemmas/LexStep.lean) needs of an RFC string.
-/
import ShapeVerif.Ref.JsonText
namespace ShapeVerif
open Rfc

/-- the characters between the quotes of an RFC 8259 string (§7) -/
inductive StrBody : List Char → Prop
  | nil : StrBody []
  | ord {c : Char} {s : List Char} : c ≠ '"' → c ≠ '\\' → ¬ c.toNat < 0x20 → StrBody s → StrBody (c :: s)
  | esc {e : Char} {s : List Char} : isSimpleEscape e = true → StrBody s → StrBody ('\\' :: e :: s)
  | uni {a b c d : Char} {s : List Char} : (isHex a && isHex b && isHex c && isHex d) = true → StrBody s →
      StrBody ('\\' :: 'u' :: a :: b :: c :: d :: s)

theorem stringBody_sound {r s r' : List Char} (h : stringBody r = some (s, r')) :
    StrBody s ∧ r = s ++ '"' :: r' := by
  fun_induction stringBody r generalizing s
  case case2 c _ hq =>
    cases h; rw [beq_iff_eq.1 hq]; exact ⟨.nil, rfl⟩
  case case4 c _ hb e hu a b c2 d _ hh _ _ hs ih =>
    cases h
    obtain ⟨h1, rfl⟩ := ih hs
    rw [beq_iff_eq.1 hb, beq_iff_eq.1 hu]
    exact ⟨.uni hh h1, rfl⟩
  case case8 c _ hb e _ _ he _ _ hs ih =>
    cases h
    obtain ⟨h1, rfl⟩ := ih hs
    rw [beq_iff_eq.1 hb]
    exact ⟨.esc he h1, rfl⟩
  case case12 c _ hq hb hc _ _ hs ih =>
    cases h
    obtain ⟨h1, rfl⟩ := ih hs
    exact ⟨.ord (by simpa using hq) (by simpa using hb) hc h1, rfl⟩
  all_goals cases h

theorem stringBody_complete {s : List Char} (h : StrBody s) (r' : List Char) :
    stringBody (s ++ '"' :: r') = some (s, r') := by
  induction h with
  | nil => unfold stringBody; simp
  | ord h1 h2 h3 _ ih => simp only [List.cons_append]; unfold stringBody; simp [h1, h2, h3, ih]
  | @esc e _ he _ ih =>
    have hu : e ≠ 'u' := by rintro rfl; cases he
    simp only [List.cons_append]; unfold stringBody; simp [hu, he, ih]
  | uni hh _ ih => simp only [List.cons_append]; unfold stringBody; simp [hh, ih]

theorem scanString_split (cs : List Char) : (scanString cs).1 ++ (scanString cs).2.1 = cs := by
  fun_induction scanString cs
  case case2 c cs _ ih => exact congrArg (fun x => '\\' :: c :: x) ih
  case case4 c cs _ _ _ _ ih => exact congrArg (c :: ·) ih
  all_goals rfl

theorem scanString_closed_ne_nil (cs : List Char) : (scanString cs).2.2 = true → (scanString cs).1 ≠ [] := by
  fun_induction scanString cs
  case case3 | case5 => intro h; cases h
  all_goals exact fun _ => List.cons_ne_nil _ _

theorem scanString_quote (r : List Char) : scanString ('"' :: r) = (['"'], r, true) := by
  rw [scanString]

theorem scanString_escape (e : Char) (r : List Char) :
    scanString ('\\' :: e :: r) = ('\\' :: e :: (scanString r).1, (scanString r).2.1, (scanString r).2.2) := by
  rw [scanString]

theorem scanString_ordinary {c : Char} (h1 : c ≠ '"') (h2 : c ≠ '\\') (r : List Char) :
    scanString (c :: r) = (c :: (scanString r).1, (scanString r).2.1, (scanString r).2.2) := by
  rw [scanString]
  · exact h1
  · exact fun _ _ h _ => h2 h
  · exact fun h _ => h2 h

theorem isHexC_ordinary {h : Char} (hh : isHexC h = true) : h ≠ '"' ∧ h ≠ '\\' := by
  constructor <;> (rintro rfl; cases hh)

theorem isHex_eq (c : Char) : Rfc.isHex c = isHexC c := rfl

theorem scanString_hexes : ∀ (hs r : List Char), (∀ h ∈ hs, isHexC h = true) →
    scanString (hs ++ r) = (hs ++ (scanString r).1, (scanString r).2.1, (scanString r).2.2)
  | [], r, _ => rfl
  | h :: hs, r, hall => by
    have ho := isHexC_ordinary (hall h (by simp))
    rw [List.cons_append, scanString_ordinary ho.1 ho.2, scanString_hexes hs r (fun x hx => hall x (by simp [hx]))]
    rfl

theorem scanString_body {s : List Char} (h : StrBody s) (r' : List Char) :
    scanString (s ++ '"' :: r') = (s ++ ['"'], r', true) := by
  induction h with
  | nil => exact scanString_quote r'
  | ord h1 h2 _ _ ih => rw [List.cons_append, scanString_ordinary h1 h2, ih]; rfl
  | esc _ _ ih => rw [List.cons_append, List.cons_append, scanString_escape, ih]; rfl
  | @uni a b c d s hh _ ih =>
    simp only [Bool.and_eq_true] at hh
    have := scanString_hexes [a, b, c, d] (s ++ '"' :: r') (by simp [isHex_eq] at hh ⊢; simp [hh])
    simp only [List.cons_append, List.nil_append] at this ⊢
    rw [scanString_escape, this, ih]

theorem checkString_body (start : Nat) {s : List Char} (h : StrBody s) :
    ∀ pos, checkStringGo start .normal pos (s ++ ['"']) = [] := by
  induction h with
  | nil => intro pos; simp [checkStringGo]
  | ord _ h2 h3 _ ih => intro pos; simp [checkStringGo, h2, h3, ih]
  | esc he _ ih =>
    intro pos
    have he' := he
    simp only [isSimpleEscape] at he'
    simp [checkStringGo, he', ih]
  | uni hh _ ih =>
    intro pos
    simp only [Bool.and_eq_true, isHex_eq] at hh
    simp [checkStringGo, hh, ih]

theorem checkStringGo_hex_ne_nil (start iu done pos : Nat) {c : Char} (rest : List Char) (h : ¬ isHexC c = true) :
    checkStringGo start (.hex iu done) pos (c :: rest) ≠ [] := by
  rw [checkStringGo, if_neg h]
  exact List.cons_ne_nil _ _

theorem eq_four_of_length {l : List Char} (h : l.length = 4) : ∃ a b c d, l = [a, b, c, d] := by
  obtain ⟨a, l, rfl⟩ := List.exists_cons_of_length_eq_add_one h
  have h := Nat.succ.inj h
  obtain ⟨b, l, rfl⟩ := List.exists_cons_of_length_eq_add_one h
  have h := Nat.succ.inj h
  obtain ⟨c, l, rfl⟩ := List.exists_cons_of_length_eq_add_one h
  have h := Nat.succ.inj h
  obtain ⟨d, l, rfl⟩ := List.exists_cons_of_length_eq_add_one h
  cases List.eq_nil_of_length_eq_zero (Nat.succ.inj h)
  exact ⟨a, b, c, d, rfl⟩

/-- The checker's state is generalised so that one structural induction over `scanString` goes
through: in the `\\uXXXX` state the hex digits still owed come first. -/
theorem body_of_checked (start : Nat) (r : List Char) (hc : (scanString r).2.2 = true) :
    (∀ pos, checkStringGo start .normal pos (scanString r).1 = [] → ∃ s, (scanString r).1 = s ++ ['"'] ∧ StrBody s) ∧
    (∀ iu done pos, done < 4 → checkStringGo start (.hex iu done) pos (scanString r).1 = [] →
      ∃ hs s, (scanString r).1 = hs ++ s ++ ['"'] ∧ hs.length + done = 4 ∧ (∀ h ∈ hs, isHexC h = true) ∧ StrBody s) := by
  fun_induction scanString r
  case case1 =>
    exact ⟨fun _ _ => ⟨[], rfl, .nil⟩, fun iu done pos _ h => absurd h (checkStringGo_hex_ne_nil _ _ _ _ _ (by decide))⟩
  case case2 c cs _ ih =>
    obtain ⟨ihn, ihh⟩ := ih hc
    refine ⟨fun pos h => ?_, fun iu done pos _ h => ?_⟩
    · simp only [checkStringGo, beq_self_eq_true, if_true] at h
      split at h
      · rename_i he
        obtain ⟨s, e, hs⟩ := ihn _ h
        exact ⟨'\\' :: c :: s, by show _ :: _ :: (scanString cs).1 = _; rw [e]; rfl, .esc he hs⟩
      · split at h
        · rename_i hu
          obtain ⟨hs, s, e, hl, hall, hs'⟩ := ihh _ 0 _ (by decide) h
          obtain ⟨a, b, c2, d, rfl⟩ := eq_four_of_length hl
          refine ⟨'\\' :: 'u' :: a :: b :: c2 :: d :: s,
            by show _ :: _ :: (scanString cs).1 = _; rw [e, beq_iff_eq.1 hu]; rfl, .uni ?_ hs'⟩
          simp [isHex_eq, hall]
        · cases h
    · exact absurd h (checkStringGo_hex_ne_nil _ _ _ _ _ (by decide))
  case case3 => cases hc
  case case4 c cs hq hb1 hb2 _ ih =>
    obtain ⟨ihn, ihh⟩ := ih hc
    have hb : c ≠ '\\' := fun h => by
      cases cs with
      | nil => exact hb2 h rfl
      | cons x xs => exact hb1 _ _ h rfl
    refine ⟨fun pos h => ?_, fun iu done pos hd h => ?_⟩
    · simp only [checkStringGo, beq_iff_eq, hb, if_false] at h
      split at h
      · cases h
      · rename_i hctl
        obtain ⟨s, e, hs⟩ := ihn _ h
        exact ⟨c :: s, by show _ :: (scanString cs).1 = _; rw [e]; rfl, .ord hq hb hctl hs⟩
    · simp only [checkStringGo] at h
      split at h
      · rename_i hhex
        split at h
        · rename_i h4
          obtain ⟨s, e, hs⟩ := ihn _ h
          exact ⟨[c], s, by show _ :: (scanString cs).1 = _; rw [e]; rfl, by simp at h4 ⊢; omega, by simpa using hhex, hs⟩
        · rename_i h4
          obtain ⟨hs, s, e, hl, hall, hs'⟩ := ihh iu (done + 1) _ (by simp at h4; omega) h
          exact ⟨c :: hs, s, by show _ :: (scanString cs).1 = _; rw [e]; rfl, by simp; omega,
            by simpa [hhex] using hall, hs'⟩
      · cases h
  case case5 => cases hc

theorem checkString_quote (start : Nat) (t : List Char) :
    checkString start ('"' :: t) = checkStringGo start .normal ('"' : Char).utf8Size t := by
  simp [checkString, checkStringGo]

theorem lexemeOk_string {txt : List Char} :
    lexemeOk .string txt = true ↔ ∃ s, txt = '"' :: s ++ ['"'] ∧ StrBody s := by
  constructor
  · intro h
    simp only [lexemeOk] at h
    split at h
    · rename_i r
      split at h
      · rename_i s hs
        obtain ⟨h1, rfl⟩ := stringBody_sound hs
        exact ⟨s, rfl, h1⟩
      · cases h
    · cases h
  · rintro ⟨s, rfl, hs⟩
    simp only [lexemeOk, List.cons_append, stringBody_complete hs []]

theorem string_token_valid (start : Nat) (r : List Char) (hc : (scanString r).2.2 = true)
    (hd : checkString start ('"' :: (scanString r).1) = []) :
    lexemeOk .string ('"' :: (scanString r).1) = true := by
  rw [checkString_quote] at hd
  obtain ⟨s, e, hs⟩ := (body_of_checked start r hc).1 _ hd
  exact lexemeOk_string.2 ⟨s, by rw [e]; rfl, hs⟩

end ShapeVerif
