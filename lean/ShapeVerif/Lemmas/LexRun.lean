/-
A lexer step and the loop. `lexOne_ok` is everything the facts about `tokenize` need to know about the
result of `lexOne`, proved once, arm by arm. `LexRun cs pos d ts ds` is `tokenize`'s loop as a relation:
from input `cs` at byte offset `pos` and bracket depth `d` it produces the tokens `ts` and the
diagnostics `ds`. `lexLoop_run` ties it to the model's fuel-and-accumulator loop once; every fact
about the loop is then an induction over `LexRun` with one case per rule.
-/
import ShapeVerif.Lemmas.LexNumber
import ShapeVerif.Lemmas.LexString
namespace ShapeVerif

theorem isWs_of_isWsChar {c : Char} (h : isWsChar c = true) : Rfc.isWs c = true := by
  simp only [isWsChar, Bool.or_eq_true, beq_iff_eq] at h
  rcases h with rfl | rfl <;> rfl

theorem lexemeOk_basic {k : Tok} {txt : List Char} (h : lexemeOk k txt = true) :
    txt ≠ [] ∧ k ≠ .eof ∧ k ≠ .error ∧ (k = .string → 2 ≤ txt.length) := by
  cases k
  case string =>
    obtain ⟨s, rfl, _⟩ := lexemeOk_string.1 h
    simp
  case number =>
    simp only [lexemeOk, beq_iff_eq] at h
    obtain ⟨c, tl, e, _⟩ := (scanNumber_split (scanNumber_of_number h)).2
    simp [e]
  case eof | error => cases h
  all_goals exact ⟨fun e => (by rw [e] at h; cases h), by decide, by decide, fun e => by cases e⟩

/-- what one lexer step guarantees about its result `(kind, diagnostic, text, rest)` on input `inp` -/
structure StepOk (inp : List Char) (r : Tok × Option DiagKind × List Char × List Char) : Prop where
  split : r.2.2.1 ++ r.2.2.2 = inp
  ne : r.2.2.1 ≠ []
  noEof : r.1 ≠ .eof
  noErr : r.2.1 = none → r.1 ≠ .error
  len2 : r.1 = .string → 2 ≤ r.2.2.1.length
  /-- the text is a lexeme of its class; for a string, once `check_string` has passed it -/
  valid : r.2.1 = none → ∀ pos, (r.1 = .string → checkString pos r.2.2.1 = []) → lexemeOk r.1 r.2.2.1 = true

theorem StepOk.plain {inp txt rest : List Char} {k : Tok} (hs : txt ++ rest = inp) (hv : lexemeOk k txt = true) :
    StepOk inp (k, none, txt, rest) :=
  have h := lexemeOk_basic hv
  ⟨hs, h.1, h.2.1, fun _ => h.2.2.1, h.2.2.2, fun _ _ _ => hv⟩

theorem StepOk.err {inp txt rest : List Char} {dk : DiagKind} (hs : txt ++ rest = inp) (hne : txt ≠ []) :
    StepOk inp (.error, some dk, txt, rest) :=
  ⟨hs, hne, by simp, by simp, by simp, by simp⟩

theorem cons_append_eq {c : Char} {a b cs : List Char} (h : a ++ b = cs) : c :: a ++ b = c :: cs :=
  congrArg (c :: ·) h

theorem lexOne_ok {inp : List Char} (hne : inp ≠ []) : StepOk inp (lexOne inp) := by
  -- the cases are the arms of `lexOne` in the order they are written there: 1 no input, 2 blanks, 3 `\n`,
  -- 4 `\r\n`, 5 `\r`, 6–11 `{ } [ ] , :`, 12 string, 13 unterminated string, 14–16 `true false null`,
  -- 17 another word, 18 number, 19 any other character
  fun_cases lexOne inp
  case case1 => exact absurd rfl hne
  case case2 c cs h _ =>
    have hw := takeWhileC_spec isWsChar cs
    refine .plain (cons_append_eq hw.1) ?_
    simp only [lexemeOk, List.isEmpty_cons, Bool.not_false, Bool.true_and, List.all_cons, isWs_of_isWsChar h,
      List.all_eq_true]
    exact fun x hx => isWs_of_isWsChar (hw.2.1 x hx)
  case case4 h _ => exact .plain (by rw [beq_iff_eq.1 h]; rfl) rfl
  case case5 h _ => exact .plain (by rw [beq_iff_eq.1 h]; rfl) rfl
  case case3 | case6 | case7 | case8 | case9 | case10 | case11 =>
    rename_i h
    exact .plain rfl (by rw [beq_iff_eq.1 h]; rfl)
  case case12 hq _ hc =>
    have hl := scanString_closed_ne_nil _ hc
    refine ⟨cons_append_eq (scanString_split _), by simp, by simp, by simp, fun _ => ?_, fun _ pos hd => ?_⟩
    · exact Nat.succ_le_succ (List.length_pos_iff.2 hl)
    · rw [beq_iff_eq.1 hq] at hd ⊢
      exact string_token_valid pos _ hc (hd rfl)
  case case13 => exact .err (cons_append_eq (scanString_split _)) (List.cons_ne_nil _ _)
  case case14 | case15 | case16 =>
    rename_i h
    exact .plain (cons_append_eq (takeWhileC_spec isAlnumC _).1) (by simpa [lexemeOk] using h)
  case case17 => exact .err (cons_append_eq (takeWhileC_spec isAlnumC _).1) (List.cons_ne_nil _ _)
  case case18 h => exact .plain (scanNumber_split h).1 (by simp [lexemeOk, scanNumber_valid h])
  case case19 => exact .err rfl (List.cons_ne_nil _ _)

theorem lexOne_rest_lt {inp : List Char} (h : inp ≠ []) : (lexOne inp).2.2.2.length < inp.length := by
  have ok := lexOne_ok h
  have hl := congrArg List.length ok.split
  have := List.length_pos_iff.2 ok.ne
  rw [List.length_append] at hl
  omega

/-- bracket depth after a token of kind `k`, as `depthFrom` counts it: `d + bw k` with ParseDepth's `bw`
(no proof module that both files import speaks of the bracket weight; the two meet in `H_of_depthFrom`) -/
def bump (k : Tok) (d : Int) : Int :=
  if k == .lbrace || k == .lbrak then d + 1 else if k == .rbrace || k == .rbrak then d - 1 else d

theorem bump_of_skip {k : Tok} (h : isSkipTok k = true) (d : Int) : bump k d = d := by
  simp only [isSkipTok, Bool.or_eq_true, beq_iff_eq] at h
  rcases h with (rfl | rfl) | rfl <;> rfl

theorem depthFrom_cons (d : Int) (k : Tok) (ks : List Tok) :
    depthFrom d (k :: ks) = (decide (bump k d ≤ 256) && depthFrom (bump k d) ks) := rfl

/-- the model keeps two counters and tests their sum -/
theorem bump_eq (k : Tok) (nb nk : Int) :
    (if k == Tok.lbrace then nb + 1 else if k == Tok.rbrace then nb - 1 else nb) +
      (if k == Tok.lbrak then nk + 1 else if k == Tok.rbrak then nk - 1 else nk) = bump k (nb + nk) := by
  cases k
  case lbrace => show nb + 1 + nk = nb + nk + 1; exact Int.add_right_comm nb 1 nk
  case rbrace => show nb - 1 + nk = nb + nk - 1; exact Int.add_right_comm nb (-1) nk
  case lbrak => show nb + (nk + 1) = nb + nk + 1; exact (Int.add_assoc nb nk 1).symm
  case rbrak => show nb + (nk - 1) = nb + nk - 1; exact (Int.add_sub_assoc nb nk 1).symm
  all_goals rfl

def strDiags (k : Tok) (pos : Nat) (text : List Char) : List Diag :=
  if k == .string then checkString pos text else []

theorem strDiags_string (pos : Nat) (text : List Char) : strDiags .string pos text = checkString pos text := rfl

theorem strDiags_of_ne_string {k : Tok} (h : k ≠ .string) (pos : Nat) (text : List Char) : strDiags k pos text = [] :=
  if_neg (by simpa using h)

/-- the model pushes them onto its reversed accumulator -/
theorem strDiags_push (k : Tok) (pos : Nat) (text : List Char) (diags : List Diag) :
    (if k == .string then (checkString pos text).reverse ++ diags else diags) = (strDiags k pos text).reverse ++ diags := by
  unfold strDiags
  split <;> rfl

/-- One rule per way an iteration of `tokenize`'s loop can end: no input left; a lexing error (an
`Error` token and a diagnostic, no nesting check); nesting too deep (the diagnostic is pushed, the token
dropped, the loop left); an ordinary token. -/
inductive LexRun : List Char → Nat → Int → List Token → List Diag → Prop
  | done {pos : Nat} {d : Int} : LexRun [] pos d [] []
  | err {cs text rest : List Char} {pos : Nat} {d : Int} {k : Tok} {dk : DiagKind} {ts : List Token} {ds : List Diag} :
      cs ≠ [] → lexOne cs = (k, some dk, text, rest) → LexRun rest (pos + utf8Len text) d ts ds →
      LexRun cs pos d (⟨.error, pos, pos + utf8Len text⟩ :: ts) (⟨dk, pos, pos + utf8Len text⟩ :: ds)
  | deep {cs text rest : List Char} {pos : Nat} {d : Int} {k : Tok} :
      cs ≠ [] → lexOne cs = (k, none, text, rest) → bump k d > 256 →
      LexRun cs pos d [] (strDiags k pos text ++ [⟨.tooDeep, pos, pos + utf8Len text⟩])
  | tok {cs text rest : List Char} {pos : Nat} {d : Int} {k : Tok} {ts : List Token} {ds : List Diag} :
      cs ≠ [] → lexOne cs = (k, none, text, rest) → bump k d ≤ 256 →
      LexRun rest (pos + utf8Len text) (bump k d) ts ds →
      LexRun cs pos d (⟨k, pos, pos + utf8Len text⟩ :: ts) (strDiags k pos text ++ ds)

theorem lexLoop_run : ∀ (fuel : Nat) (cs : List Char) (pos : Nat) (nb nk : Int) (toks : List Token) (diags : List Diag),
    cs.length ≤ fuel → ∃ ts ds, LexRun cs pos (nb + nk) ts ds ∧
      lexLoop fuel cs pos nb nk toks diags = ⟨toks.reverse ++ ts, diags.reverse ++ ds⟩
  | 0, [], _, _, _, _, _, _ => ⟨[], [], .done, by simp [lexLoop]⟩
  | _ + 1, [], _, _, _, _, _, _ => ⟨[], [], .done, by simp [lexLoop]⟩
  | 0, _ :: _, _, _, _, _, _, h => by simp at h
  | fuel + 1, c :: cs, pos, nb, nk, toks, diags, h => by
    have hne := List.cons_ne_nil c cs
    have hl := lexOne_rest_lt hne
    have hle : (lexOne (c :: cs)).2.2.2.length ≤ fuel := by
      rw [List.length_cons] at h hl
      omega
    simp only [lexLoop]
    rcases hr : lexOne (c :: cs) with ⟨k, dk, text, rest⟩
    rw [hr] at hle
    cases dk with
    | some dk =>
      obtain ⟨ts, ds, h1, h2⟩ := lexLoop_run fuel rest (pos + utf8Len text) nb nk
        (⟨.error, pos, pos + utf8Len text⟩ :: toks) (⟨dk, pos, pos + utf8Len text⟩ :: diags) hle
      exact ⟨_, _, .err hne hr h1, by simp only [h2]; simp⟩
    | none =>
      simp only [bump_eq]
      -- `split` on the goal is dear here: the condition is decided by hand
      by_cases hd : bump k (nb + nk) > 256
      · refine ⟨_, _, .deep hne hr hd, ?_⟩
        simp only [if_pos hd, strDiags_push]
        simp
      · rw [if_neg hd]
        obtain ⟨ts, ds, h1, h2⟩ := lexLoop_run fuel rest (pos + utf8Len text) _ _
          (⟨k, pos, pos + utf8Len text⟩ :: toks) (if k == .string then (checkString pos text).reverse ++ diags else diags) hle
        rw [bump_eq] at h1
        refine ⟨_, _, .tok hne hr (Int.not_lt.1 hd) h1, ?_⟩
        rw [h2, strDiags_push]
        simp

theorem tokenize_run (src : List Char) : ∃ ts ds, LexRun src 0 0 ts ds ∧ tokenize src = ⟨ts, ds⟩ := by
  obtain ⟨ts, ds, h1, h2⟩ := lexLoop_run src.length src 0 0 0 [] [] (Nat.le_refl _)
  exact ⟨ts, ds, h1, by simpa [tokenize] using h2⟩

theorem LexRun.depth {cs : List Char} {pos : Nat} {d : Int} {ts : List Token} {ds : List Diag}
    (h : LexRun cs pos d ts ds) (hd : d ≤ 256) : depthFrom d (ts.map (·.kind)) = true := by
  induction h with
  | done | deep => rfl
  | err _ _ _ ih =>
    rw [List.map_cons, depthFrom_cons]
    exact Bool.and_eq_true_iff.2 ⟨decide_eq_true hd, ih hd⟩
  | tok _ _ hk _ ih =>
    rw [List.map_cons, depthFrom_cons]
    exact Bool.and_eq_true_iff.2 ⟨decide_eq_true hk, ih hk⟩

theorem LexRun.len {cs : List Char} {pos : Nat} {d : Int} {ts : List Token} {ds : List Diag}
    (h : LexRun cs pos d ts ds) : ts.length ≤ cs.length := by
  induction h with
  | done => exact Nat.le_refl _
  | deep => exact Nat.zero_le _
  | err hne hr _ ih | tok hne hr _ _ ih =>
    have := lexOne_rest_lt hne
    rw [hr] at this
    exact Nat.succ_le_of_lt (Nat.lt_of_le_of_lt ih this)

end ShapeVerif
