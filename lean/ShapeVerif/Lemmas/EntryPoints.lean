/-
The entry points of `lib.rs` in terms of `from_str`: what `from_sources` answers is the merge of the
shapes of all its texts, or `from_str`'s own answer on a text it does not accept.
-/
import ShapeVerif.Model.ParseCst
namespace ShapeVerif
open Shape

theorem accept_no_diagnostics (src : List Char) (s : Shape) (h : fromStr src = .ok s) :
    (parse src).diags = [] ∧ parseCst src (parse src).root = .ok s := by
  unfold fromStr at h
  simp only at h
  split at h
  · cases h
  · cases h
  · rename_i s' hs
    split at h
    · cases h
    · cases h
    · rename_i hr
      cases h
      refine ⟨?_, hs⟩
      unfold rejectDiagnostics at hr
      split at hr
      -- not `assumption`: it tries `hr` first, and the unifier unfolds `parse src` before it sees the types differ
      · rename_i hd
        exact hd
      · cases hr

theorem fromSources_go_cases : ∀ (srcs : List (List Char)) (acc : List Shape),
    (∃ vs, srcs.map fromStr = vs.map .ok ∧ fromSources.go srcs acc = .ok (acc.reverse ++ vs)) ∨
    (∃ t ∈ srcs, (∃ e, fromStr t = .err e ∧ fromSources.go srcs acc = .err e) ∨
      (fromStr t = .panic ∧ fromSources.go srcs acc = .panic))
  | [], acc => .inl ⟨[], rfl, by simp [fromSources.go]⟩
  | t :: rest, acc => by
    simp only [fromSources.go]
    cases hf : fromStr t with
    | panic => exact .inr ⟨t, by simp, .inr ⟨hf, rfl⟩⟩
    | err e => exact .inr ⟨t, by simp, .inl ⟨e, hf, rfl⟩⟩
    | ok v =>
      rcases fromSources_go_cases rest (v :: acc) with ⟨vs, h1, h2⟩ | ⟨u, hu, h⟩
      · exact .inl ⟨v :: vs, by simp [hf, h1], by simp [h2]⟩
      · exact .inr ⟨u, by simp [hu], h⟩

/-- `from_sources` answers the merge of the shapes of all its texts, or what `from_str` answers on
a text it does not accept -/
theorem fromSources_cases (srcs : List (List Char)) :
    (∃ vs, srcs.map fromStr = vs.map .ok ∧
      fromSources srcs = match merge vs with | .ok s => .ok s | .error _ => .err .emptyFile) ∨
    (∃ t ∈ srcs, (∀ v, fromStr t ≠ .ok v) ∧ fromSources srcs = fromStr t) := by
  unfold fromSources
  rcases fromSources_go_cases srcs [] with ⟨vs, h1, h2⟩ | ⟨t, ht, ⟨e, h1, h2⟩ | ⟨h1, h2⟩⟩
  · exact .inl ⟨vs, h1, by simp only [h2, List.reverse_nil, List.nil_append]; cases merge vs <;> rfl⟩
  all_goals exact .inr ⟨t, ht, by simp [h1], by simp [h1, h2]⟩

theorem sources_accept (srcs : List (List Char)) (s : Shape) (h : fromSources srcs = .ok s) :
    ∀ t ∈ srcs, ∃ v, fromStr t = .ok v := by
  rcases fromSources_cases srcs with ⟨vs, h1, _⟩ | ⟨t, _, h1, h2⟩
  · intro t ht
    have : fromStr t ∈ vs.map Outcome.ok := h1 ▸ List.mem_map_of_mem ht
    obtain ⟨v, _, hv⟩ := List.mem_map.1 this
    exact ⟨v, hv.symm⟩
  · exact absurd (h2 ▸ h) (h1 s)

theorem isSuperset_panic_iff (s : Shape) (t : List Char) : isSuperset s t = .panic ↔ fromStr t = .panic := by
  unfold isSuperset
  cases fromStr t <;> simp

theorem isSupersetChecked_panic_iff (s : Shape) (t : List Char) :
    isSupersetChecked s t = .panic ↔ fromStr t = .panic := by
  unfold isSupersetChecked
  cases fromStr t <;> simp

end ShapeVerif
