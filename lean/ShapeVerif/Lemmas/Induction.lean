/-
Structural induction on the two nested datatypes, `Shape` and `Doc`, with the hypotheses a proof
needs: one for the element type of an array, and one for every member value, variant, tuple element
or array element, given as membership in the list. Registered as the default for `induction`.
A Boolean predicate on such a type is defined by mutual recursion together with companions on the
nested lists; `all_of_rec` / `any_of_rec` say once that such a companion is `List.all` / `List.any`.
-/
import ShapeVerif.Model.Shape
import ShapeVerif.Model.Json
namespace ShapeVerif

@[induction_eliminator]
theorem Shape.ind {motive : Shape → Prop}
    (null : motive .null) (bool : ∀ o, motive (.bool o)) (number : ∀ o, motive (.number o))
    (string : ∀ o, motive (.string o))
    (array : ∀ t o, motive t → motive (.array t o))
    (object : ∀ c o, (∀ kv ∈ c, motive kv.2) → motive (.object c o))
    (oneOf : ∀ vs o, (∀ v ∈ vs, motive v) → motive (.oneOf vs o))
    (tuple : ∀ es o, (∀ e ∈ es, motive e) → motive (.tuple es o)) : ∀ s, motive s :=
  Shape.rec (motive_1 := motive) (motive_2 := fun c => ∀ kv ∈ c, motive kv.2)
    (motive_3 := fun l => ∀ v ∈ l, motive v) (motive_4 := fun kv => motive kv.2)
    null bool number string array object oneOf tuple
    (fun _ h => absurd h List.not_mem_nil)
    (fun _ _ hd tl kv h => by
      rcases List.mem_cons.1 h with rfl | h
      · exact hd
      · exact tl kv h)
    (fun _ h => absurd h List.not_mem_nil)
    (fun _ _ hd tl v h => by
      rcases List.mem_cons.1 h with rfl | h
      · exact hd
      · exact tl v h)
    (fun _ _ h => h)

@[induction_eliminator]
theorem Doc.ind {motive : Doc → Prop}
    (null : motive .null) (bool : ∀ b, motive (.bool b)) (num : ∀ l, motive (.num l))
    (str : ∀ r, motive (.str r))
    (arr : ∀ xs, (∀ x ∈ xs, motive x) → motive (.arr xs))
    (obj : ∀ ms, (∀ kv ∈ ms, motive kv.2) → motive (.obj ms)) : ∀ d, motive d :=
  Doc.rec (motive_1 := motive) (motive_2 := fun l => ∀ x ∈ l, motive x)
    (motive_3 := fun ms => ∀ kv ∈ ms, motive kv.2) (motive_4 := fun kv => motive kv.2)
    null bool num str arr obj
    (fun _ h => absurd h List.not_mem_nil)
    (fun _ _ hd tl x h => by
      rcases List.mem_cons.1 h with rfl | h
      · exact hd
      · exact tl x h)
    (fun _ h => absurd h List.not_mem_nil)
    (fun _ _ hd tl kv h => by
      rcases List.mem_cons.1 h with rfl | h
      · exact hd
      · exact tl kv h)
    (fun _ _ h => h)

theorem all_of_rec {α : Type} {f : List α → Bool} {p : α → Bool} (nil : f [] = true)
    (cons : ∀ a l, f (a :: l) = (p a && f l)) : ∀ l, f l = l.all p
  | [] => nil
  | a :: l => by rw [cons, all_of_rec nil cons l, List.all_cons]

theorem any_of_rec {α : Type} {f : List α → Bool} {p : α → Bool} (nil : f [] = false)
    (cons : ∀ a l, f (a :: l) = (p a || f l)) : ∀ l, f l = l.any p
  | [] => nil
  | a :: l => by rw [cons, any_of_rec nil cons l, List.any_cons]

end ShapeVerif
