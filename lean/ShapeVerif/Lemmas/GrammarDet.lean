/-
The token grammar is unambiguous: a token list has at most one reading (needed to say that the
document the parser builds is *the* document of the text). The first token of a value decides which
rule it was derived by, and a value ends where its first token says: at once, or at the bracket that
closes it; so of two values that begin at the same place neither is longer.
-/
import ShapeVerif.Model.Parser
import ShapeVerif.Lemmas.GrammarInduct
namespace ShapeVerif

variable {key : Token → String}

def litDoc : Tok → Doc
  | .null_ => .null
  | .number => .num ""
  | .string => .str ""
  | _ => .bool false

/-- a value read off its first token: a literal is that token alone; behind `[` resp. `{` come the
elements resp. members, if any, and the closing bracket -/
theorem TValue.head {t : Token} {rest : List Token} {d : Doc} (h : TValue key (t :: rest) d) :
    (isLiteralStart t.kind = true ∧ rest = [] ∧ d = litDoc t.kind) ∨
    (t.kind = .lbrak ∧ ∃ body r, rest = body ++ [r] ∧ r.kind = .rbrak ∧
      ((body = [] ∧ d = .arr []) ∨ ∃ xs, TElems key body xs ∧ d = .arr xs)) ∨
    (t.kind = .lbrace ∧ ∃ body r, rest = body ++ [r] ∧ r.kind = .rbrace ∧
      ((body = [] ∧ d = .obj []) ∨ ∃ ms, TMembers key body ms ∧ d = .obj ms)) := by
  cases h with
  | null hk | tru hk | fls hk | num hk | str hk => exact .inl (by rw [hk]; exact ⟨rfl, rfl, rfl⟩)
  | arrE hl hr => exact .inr (.inl ⟨hl, [], _, rfl, hr, .inl ⟨rfl, rfl⟩⟩)
  | arr hl hr he => exact .inr (.inl ⟨hl, _, _, rfl, hr, .inr ⟨_, he, rfl⟩⟩)
  | objE hl hr => exact .inr (.inr ⟨hl, [], _, rfl, hr, .inl ⟨rfl, rfl⟩⟩)
  | obj hl hr hm => exact .inr (.inr ⟨hl, _, _, rfl, hr, .inr ⟨_, hm, rfl⟩⟩)

theorem first_of_value {ph : List Token} {d : Doc} (h : TValue key ph d) :
    ∃ t rest, ph = t :: rest ∧ isValueStart t.kind = true := by
  cases h with
  | null hk | tru hk | fls hk | num hk | str hk => exact ⟨_, [], rfl, by rw [hk]; rfl⟩
  | arrE hl _ | arr hl _ _ | objE hl _ | obj hl _ _ => exact ⟨_, _, rfl, by rw [hl]; rfl⟩

/-- what may follow a list of elements / members: not a comma -/
def NotComma (r : List Token) : Prop := ∀ t tl, r = t :: tl → t.kind ≠ .comma

theorem notComma_closer {c : Token} {r : List Token} (h : c.kind = .rbrak ∨ c.kind = .rbrace) : NotComma (c :: r) := by
  intro t tl e
  cases e
  rcases h with h | h <;> rw [h] <;> decide

theorem TValue.head_of_eq {t : Token} {a r ph' r' : List Token} {d' : Doc} (h' : TValue key ph' d')
    (he : t :: a ++ r = ph' ++ r') : ∃ rest', ph' = t :: rest' ∧ a ++ r = rest' ++ r' ∧ TValue key (t :: rest') d' := by
  obtain ⟨t', rest', rfl, -⟩ := first_of_value h'
  cases (List.cons.inj he).1
  exact ⟨rest', rfl, (List.cons.inj he).2, h'⟩

theorem lit_det {t : Token} {k : Tok} {r ph' r' : List Token} {d' : Doc} (hk : t.kind = k)
    (hl : isLiteralStart k = true) (h' : TValue key ph' d') (he : [t] ++ r = ph' ++ r') :
    [t] = ph' ∧ litDoc k = d' := by
  obtain ⟨rest', rfl, -, h'⟩ := h'.head_of_eq he
  subst hk
  rcases h'.head with ⟨-, rfl, rfl⟩ | ⟨hk, -⟩ | ⟨hk, -⟩
  · exact ⟨rfl, rfl⟩
  · rw [hk] at hl; cases hl
  · rw [hk] at hl; cases hl

theorem TValue.arr_of_eq {l : Token} {a r ph' r' : List Token} {d' : Doc} (h' : TValue key ph' d')
    (he : l :: a ++ r = ph' ++ r') (hl : l.kind = .lbrak) :
    ∃ body' c', ph' = l :: body' ++ [c'] ∧ c'.kind = .rbrak ∧
      ((body' = [] ∧ d' = .arr []) ∨ ∃ xs, TElems key body' xs ∧ d' = .arr xs) := by
  obtain ⟨rest', rfl, -, h'⟩ := h'.head_of_eq he
  rcases h'.head with ⟨hk, -⟩ | ⟨-, body', c', rfl, h⟩ | ⟨hk, -⟩
  · rw [hl] at hk; cases hk
  · exact ⟨body', c', rfl, h⟩
  · rw [hl] at hk; cases hk

theorem TValue.obj_of_eq {l : Token} {a r ph' r' : List Token} {d' : Doc} (h' : TValue key ph' d')
    (he : l :: a ++ r = ph' ++ r') (hl : l.kind = .lbrace) :
    ∃ body' c', ph' = l :: body' ++ [c'] ∧ c'.kind = .rbrace ∧
      ((body' = [] ∧ d' = .obj []) ∨ ∃ ms, TMembers key body' ms ∧ d' = .obj ms) := by
  obtain ⟨rest', rfl, -, h'⟩ := h'.head_of_eq he
  rcases h'.head with ⟨hk, -⟩ | ⟨hk, -⟩ | ⟨-, body', c', rfl, h⟩
  · rw [hl] at hk; cases hk
  · rw [hl] at hk; cases hk
  · exact ⟨body', c', rfl, h⟩

/-- two bracketed values from the same opening bracket, given that bodies are determined (`det`);
a body does not begin with the closing bracket (`start`), so an empty one is told from a full one -/
theorem bracket_det {α : Type} {T : List Token → α → Prop} {mk : α → Doc} {e : α} {l c : Token}
    {body r ph' r' : List Token} {x : α} {d' : Doc} {cl : Tok} (hc : c.kind = cl) (hcl : cl = .rbrak ∨ cl = .rbrace)
    (start : ∀ {ts y}, T ts y → ∃ t rest, ts = t :: rest ∧ t.kind ≠ cl)
    (hx : (body = [] ∧ x = e) ∨ (T body x ∧ ∀ {body' x'} (r r' : List Token), T body' x' → body ++ r = body' ++ r' →
      NotComma r → NotComma r' → body = body' ∧ x = x'))
    (h' : ∃ body' c', ph' = l :: body' ++ [c'] ∧ c'.kind = cl ∧ ((body' = [] ∧ d' = mk e) ∨ ∃ x', T body' x' ∧ d' = mk x'))
    (he : l :: body ++ [c] ++ r = ph' ++ r') : l :: body ++ [c] = ph' ∧ mk x = d' := by
  obtain ⟨body', c', rfl, hc', hb'⟩ := h'
  have he : body ++ c :: r = body' ++ c' :: r' := by simpa using he
  rcases hx with ⟨rfl, rfl⟩ | ⟨hb, det⟩ <;> rcases hb' with ⟨rfl, rfl⟩ | ⟨x', hb', rfl⟩
  · cases he; exact ⟨rfl, rfl⟩
  · obtain ⟨t, _, rfl, ht⟩ := start hb'
    cases he; exact absurd hc ht
  · obtain ⟨t, _, rfl, ht⟩ := start hb
    cases he; exact absurd hc' ht
  · obtain ⟨rfl, rfl⟩ := det _ _ hb' he (notComma_closer (hc ▸ hcl)) (notComma_closer (hc' ▸ hcl))
    cases List.append_cancel_left he
    exact ⟨rfl, rfl⟩

theorem elems_start {ts : List Token} {xs : List Doc} (h : TElems key ts xs) :
    ∃ t rest, ts = t :: rest ∧ t.kind ≠ .rbrak := by
  cases h with
  | one hv | cons _ hv _ =>
    obtain ⟨t, rest, e, hs⟩ := first_of_value hv
    exact ⟨t, _, by subst e; rfl, by rintro e; rw [e] at hs; cases hs⟩

theorem members_start {ts : List Token} {ms : List (String × Doc)} (h : TMembers key ts ms) :
    ∃ t rest, ts = t :: rest ∧ t.kind ≠ .rbrace := by
  cases h with
  | one hk _ _ | cons hk _ _ _ _ => exact ⟨_, _, rfl, by rw [hk]; decide⟩

/-- of two readings that begin at the same place neither is longer, and they read the same -/
theorem grammar_det :
    (∀ {ph d}, TValue key ph d → ∀ {ph' d'} (r r' : List Token), TValue key ph' d' → ph ++ r = ph' ++ r' →
      ph = ph' ∧ d = d') ∧
    (∀ {ts xs}, TElems key ts xs → ∀ {ts' xs'} (r r' : List Token), TElems key ts' xs' → ts ++ r = ts' ++ r' →
      NotComma r → NotComma r' → ts = ts' ∧ xs = xs') ∧
    (∀ {ts ms}, TMembers key ts ms → ∀ {ts' ms'} (r r' : List Token), TMembers key ts' ms' → ts ++ r = ts' ++ r' →
      NotComma r → NotComma r' → ts = ts' ∧ ms = ms') := by
  apply TValue.induct
  case null | tru | fls | num | str => exact fun hk _ _ _ _ h' he => lit_det hk rfl h' he
  case arrE =>
    exact fun hl hc _ _ _ _ h' he =>
      bracket_det (T := TElems key) (mk := .arr) (e := []) hc (.inl rfl) elems_start (.inl ⟨rfl, rfl⟩)
        (h'.arr_of_eq he hl) he
  case arr =>
    exact fun hl hc hb ih _ _ _ _ h' he =>
      bracket_det (T := TElems key) (mk := .arr) (e := []) hc (.inl rfl) elems_start (.inr ⟨hb, ih⟩)
        (h'.arr_of_eq he hl) he
  case objE =>
    exact fun hl hc _ _ _ _ h' he =>
      bracket_det (T := TMembers key) (mk := .obj) (e := []) hc (.inr rfl) members_start (.inl ⟨rfl, rfl⟩)
        (h'.obj_of_eq he hl) he
  case obj =>
    exact fun hl hc hb ih _ _ _ _ h' he =>
      bracket_det (T := TMembers key) (mk := .obj) (e := []) hc (.inr rfl) members_start (.inr ⟨hb, ih⟩)
        (h'.obj_of_eq he hl) he
  case eOne =>
    intro ts x _ ih ts' xs' r r' h' he hn _
    cases h' with
    | one hv' => obtain ⟨rfl, rfl⟩ := ih r r' hv' he; exact ⟨rfl, rfl⟩
    | cons hc' hv' _ =>
      rw [List.append_assoc] at he
      obtain ⟨rfl, -⟩ := ih _ _ hv' he
      exact absurd hc' (hn _ _ (List.append_cancel_left he))
  case eCons =>
    intro c ts rest x xs hc _ _ ihv ihr ts' xs' r r' h' he hn hn'
    rw [List.append_assoc] at he
    cases h' with
    | one hv' =>
      obtain ⟨rfl, -⟩ := ihv _ _ hv' he
      exact absurd hc (hn' _ _ (List.append_cancel_left he).symm)
    | cons hc' hv' hrest' =>
      rw [List.append_assoc] at he
      obtain ⟨rfl, rfl⟩ := ihv _ _ hv' he
      cases List.cons.inj (List.append_cancel_left he) |>.1
      obtain ⟨rfl, rfl⟩ := ihr r r' hrest' (List.cons.inj (List.append_cancel_left he)).2 hn hn'
      exact ⟨rfl, rfl⟩
  case mOne =>
    intro k c ts v _ _ _ ih ts' ms' r r' h' he hn _
    cases h' with
    | one _ _ hv' =>
      obtain ⟨rfl, rfl, e⟩ := by simpa only [List.cons_append, List.append_assoc, List.cons.injEq] using he
      obtain ⟨rfl, rfl⟩ := ih r r' hv' e; exact ⟨rfl, rfl⟩
    | cons _ _ hm' hv' _ =>
      obtain ⟨rfl, rfl, e⟩ := by simpa only [List.cons_append, List.append_assoc, List.cons.injEq] using he
      obtain ⟨rfl, -⟩ := ih _ _ hv' e
      exact absurd hm' (hn _ _ (List.append_cancel_left e))
  case mCons =>
    intro k c m ts rest v ms _ _ hm _ _ ihv ihr ts' ms' r r' h' he hn hn'
    cases h' with
    | one _ _ hv' =>
      obtain ⟨rfl, rfl, e⟩ := by simpa only [List.cons_append, List.append_assoc, List.cons.injEq] using he
      obtain ⟨rfl, -⟩ := ihv _ _ hv' e
      exact absurd hm (hn' _ _ (List.append_cancel_left e).symm)
    | cons _ _ hm' hv' hrest' =>
      obtain ⟨rfl, rfl, e⟩ := by simpa only [List.cons_append, List.append_assoc, List.cons.injEq] using he
      obtain ⟨rfl, rfl⟩ := ihv _ _ hv' e
      cases List.cons.inj (List.append_cancel_left e) |>.1
      obtain ⟨rfl, rfl⟩ := ihr r r' hrest' (List.cons.inj (List.append_cancel_left e)).2 hn hn'
      exact ⟨rfl, rfl⟩

theorem tvalue_unique {ph : List Token} {d d' : Doc} (h1 : TValue key ph d) (h2 : TValue key ph d') : d = d' :=
  (grammar_det.1 h1 [] [] h2 rfl).2

end ShapeVerif
