/-
Lexer completeness (`LexRun.complete`; `lexLoop_complete` is its corollary for the model's loop): a text
cut into valid lexemes whose grammar tokens respect the follow condition and the depth bound is
tokenized without diagnostics into the same grammar tokens (the cut is taken in its normal form `Spell`,
Lemmas/Spell.lean). The follow condition — after a number
or a literal name comes a `,`, `]` or `}` token — holds of every phrase of the token grammar (`value_adj`).
-/
import ShapeVerif.Lemmas.LexStep
import ShapeVerif.Lemmas.GrammarInduct
namespace ShapeVerif

def adjOk : List Token → Bool
  | a :: b :: r => (!needsFollow a.kind || isCloser b.kind) && adjOk (b :: r)
  | _ => true

theorem adjOk_cons_noFollow {a : Token} {l : List Token} (ha : needsFollow a.kind = false) (hl : adjOk l = true) :
    adjOk (a :: l) = true := by
  cases l with
  | nil => rfl
  | cons b r => simp [adjOk, ha, hl]

theorem lit_adj {t : Token} (r : List Token) (hr : adjOk r = true) (hc : CloserLed r) :
    adjOk ([t] ++ r) = true := by
  cases r with
  | nil => rfl
  | cons b tl =>
    simp only [List.cons_append, List.nil_append, adjOk, hc b tl rfl, Bool.or_true, Bool.true_and]
    exact hr

variable {key : Token → String}

theorem adj_all :
    (∀ {ph : List Token} {d : Doc}, TValue key ph d → ∀ r, adjOk r = true → CloserLed r → adjOk (ph ++ r) = true) ∧
    (∀ {ts : List Token} {xs : List Doc}, TElems key ts xs → ∀ r, adjOk r = true → CloserLed r → adjOk (ts ++ r) = true) ∧
    (∀ {ts : List Token} {ms : List (String × Doc)}, TMembers key ts ms → ∀ r, adjOk r = true → CloserLed r →
      adjOk (ts ++ r) = true) := by
  apply TValue.induct
  case null | tru | fls | num | str => intro t _ r hr hc; exact lit_adj r hr hc
  case arrE | objE =>
    intro l rt hl hr' r hr hc
    exact adjOk_cons_noFollow (by rw [hl]; rfl) (adjOk_cons_noFollow (by rw [hr']; rfl) hr)
  case arr | obj =>
    intro l rt ts xs hl hr' _ ih r hr hc
    have h1 : adjOk ([rt] ++ r) = true := adjOk_cons_noFollow (by rw [hr']; rfl) hr
    have h2 := ih ([rt] ++ r) h1 (by intro b tl e; simp at e; rw [← e.1, hr']; rfl)
    simp only [List.cons_append, List.append_assoc]
    exact adjOk_cons_noFollow (by rw [hl]; rfl) h2
  case eOne => intro ts x _ ihV r hr hc; exact ihV r hr hc
  case eCons =>
    intro c ts rest x xs hc' _ _ ihV ihE r hr hc
    have h2 : adjOk (c :: (rest ++ r)) = true := adjOk_cons_noFollow (by rw [hc']; rfl) (ihE r hr hc)
    have := ihV (c :: (rest ++ r)) h2 (by intro b tl e; simp at e; rw [← e.1, hc']; rfl)
    simpa using this
  case mOne =>
    intro k c ts v hk hc' _ ihV r hr hc
    simp only [List.cons_append]
    exact adjOk_cons_noFollow (by rw [hk]; rfl) (adjOk_cons_noFollow (by rw [hc']; rfl) (ihV r hr hc))
  case mCons =>
    intro k c m ts rest v ms hk hc' hm _ _ ihV ihM r hr hc
    have h2 : adjOk (m :: (rest ++ r)) = true := adjOk_cons_noFollow (by rw [hm]; rfl) (ihM r hr hc)
    have := ihV (m :: (rest ++ r)) h2 (by intro b tl e; simp at e; rw [← e.1, hm]; rfl)
    simp only [List.cons_append, List.append_assoc]
    exact adjOk_cons_noFollow (by rw [hk]; rfl) (adjOk_cons_noFollow (by rw [hc']; rfl) (by simpa using this))

theorem value_adj : ∀ {ph : List Token} {d : Doc}, TValue key ph d → ∀ r, adjOk r = true → CloserLed r →
    adjOk (ph ++ r) = true := adj_all.1

theorem elems_adj : ∀ {ts : List Token} {xs : List Doc}, TElems key ts xs → ∀ r, adjOk r = true → CloserLed r →
    adjOk (ts ++ r) = true := adj_all.2.1

theorem members_adj : ∀ {ts : List Token} {ms : List (String × Doc)}, TMembers key ts ms → ∀ r, adjOk r = true →
    CloserLed r → adjOk (ts ++ r) = true := adj_all.2.2

theorem lexOne_ws {c : Char} (hc : Rfc.isWs c = true) (cs : List Char) :
    ∃ k text rest, lexOne (c :: cs) = (k, none, text, rest) ∧ isSkipTok k = true := by
  simp only [Rfc.isWs, Bool.or_eq_true, beq_iff_eq] at hc
  rcases hc with ((rfl | rfl) | rfl) | rfl
  case inr =>
    have : lexOne ('\r' :: cs) = (match cs with
        | '\n' :: r => (.nl, none, ['\r', '\n'], r)
        | _ => (.nl, none, ['\r'], cs)) := rfl
    rw [this]; split <;> exact ⟨_, _, _, rfl, rfl⟩
  all_goals exact ⟨_, _, _, rfl, rfl⟩

theorem follow_of_spell {pos : Nat} {t : Token} {nts : List Token} {rest : List Char}
    (hadj : adjOk (t :: nts) = true) (hf : needsFollow t.kind = true) (hs : Spell pos nts rest) : ValueFollow rest :=
  follow_closer hs fun b tl e => by
    subst e
    simp only [adjOk, hf, Bool.not_true, Bool.false_or, Bool.and_eq_true] at hadj
    exact hadj.1

theorem adjOk_tail {t : Token} {nts : List Token} (h : adjOk (t :: nts) = true) : adjOk nts = true := by
  cases nts with
  | nil => rfl
  | cons b r => simp only [adjOk, Bool.and_eq_true] at h; exact h.2

/-- one lexer step on a non-empty spelled text: no diagnostic, and either a skipped token inside the
leading whitespace or the first grammar token -/
theorem spell_lexOne {pos : Nat} {nts : List Token} {cs : List Char} (hsp : Spell pos nts cs) (hne : cs ≠ [])
    (hadj : adjOk nts = true) :
    ∃ k text rest, lexOne cs = (k, none, text, rest) ∧ (∀ p, strDiags k p text = []) ∧
      ((isSkipTok k = true ∧ Spell (pos + utf8Len text) nts rest) ∨
       (isSkipTok k = false ∧ ∃ nts', nts = ⟨k, pos, pos + utf8Len text⟩ :: nts' ∧ Spell (pos + utf8Len text) nts' rest)) := by
  obtain ⟨c, cs', rfl⟩ := List.exists_cons_of_ne_nil hne
  by_cases hws : Rfc.isWs c = true
  · obtain ⟨k, text, rest, hr, hk⟩ := lexOne_ws hws cs'
    have ok := lexOne_ok hne
    rw [hr] at ok
    have hv := ok.valid rfl 0 (fun e => by have e' : k = .string := e; rw [e'] at hk; cases hk)
    exact ⟨k, text, rest, hr, fun p => strDiags_of_ne_string (k := k) (fun e => by rw [e] at hk; cases hk) p text,
      .inl ⟨hk, spell_strip (allWs_of_skip hk hv) (by rw [ok.split]; exact hsp)⟩⟩
  · generalize hcs : c :: cs' = cs0 at hsp
    cases hsp with
    | done hw => exact absurd (allWs_cons.1 (hcs ▸ hw)).1 hws
    | @tok _ w txt rest t nts' hw hs he hk hv hrest =>
      cases w with
      | cons a w' =>
        simp only [List.cons_append, List.cons.injEq] at hcs
        exact absurd (hcs.1 ▸ (allWs_cons.1 hw).1) hws
      | nil =>
        simp only [List.nil_append, utf8Len_nil, Nat.add_zero] at hs ⊢
        obtain ⟨hlex, hchk⟩ := lexOne_complete hk hv (fun hf => follow_of_spell hadj hf hrest)
        have htok : (⟨t.kind, pos, pos + utf8Len txt⟩ : Token) = t := by
          cases t
          simp only [Token.mk.injEq, true_and] at *
          exact ⟨hs.symm, by rw [he, hs]⟩
        refine ⟨t.kind, txt, rest, hlex, hchk, .inr ⟨((grammarKind_iff _).1 hk).1, nts', by rw [htok], ?_⟩⟩
        rw [← hs, ← he]
        exact hrest

theorem LexRun.complete {cs : List Char} {pos : Nat} {d : Int} {ts : List Token} {ds : List Diag}
    (h : LexRun cs pos d ts ds) : ∀ nts, Spell pos nts cs → adjOk nts = true → d ≤ 256 →
      depthFrom d (nts.map (·.kind)) = true → ds = [] ∧ sig ts = nts := by
  induction h with
  | done => intro nts hsp _ _ _; exact ⟨rfl, (spell_nil hsp).symm⟩
  | err hne hr _ _ =>
    intro nts hsp hadj _ _
    obtain ⟨k, text, rest, hr', _⟩ := spell_lexOne hsp hne hadj
    rw [hr] at hr'; cases hr'
  | deep hne hr hd =>
    intro nts hsp hadj hle hdep
    obtain ⟨k, text, rest, hr', _, hcase⟩ := spell_lexOne hsp hne hadj
    rw [hr] at hr'; cases hr'
    rcases hcase with ⟨hk, _⟩ | ⟨_, nts', rfl, _⟩
    · rw [bump_of_skip hk] at hd; omega
    · rw [List.map_cons, depthFrom_cons, Bool.and_eq_true, decide_eq_true_eq] at hdep
      exact absurd hdep.1 (Int.not_le.2 hd)
  | tok hne hr hd _ ih =>
    intro nts hsp hadj hle hdep
    obtain ⟨k, text, rest, hr', hnd, hcase⟩ := spell_lexOne hsp hne hadj
    rw [hr] at hr'; cases hr'
    rw [hnd, List.nil_append]
    rcases hcase with ⟨hk, hsp'⟩ | ⟨hk, nts', rfl, hsp'⟩
    · rw [bump_of_skip hk] at ih
      rw [sig_cons_skip (t := ⟨_, _, _⟩) hk]
      exact ih nts hsp' hadj hle hdep
    · rw [List.map_cons, depthFrom_cons, Bool.and_eq_true, decide_eq_true_eq] at hdep
      rw [sig_cons_keep (t := ⟨_, _, _⟩) hk]
      obtain ⟨h1, h2⟩ := ih nts' hsp' (adjOk_tail hadj) hdep.1 hdep.2
      exact ⟨h1, by rw [h2]⟩

theorem lexLoop_complete : ∀ (fuel : Nat) (cs : List Char) (pos : Nat) (nb nk : Int) (toks nts : List Token),
    cs.length ≤ fuel → Spell pos nts cs → adjOk nts = true → nb + nk ≤ 256 →
    depthFrom (nb + nk) (nts.map (·.kind)) = true →
    ∃ out, lexLoop fuel cs pos nb nk toks [] = ⟨toks.reverse ++ out, []⟩ ∧ sig out = nts := by
  intro fuel cs pos nb nk toks nts hlen hsp hadj hle hdep
  obtain ⟨ts, ds, hrun, e⟩ := lexLoop_run fuel cs pos nb nk toks [] hlen
  obtain ⟨rfl, hsig⟩ := hrun.complete nts hsp hadj hle hdep
  exact ⟨ts, e, hsig⟩

end ShapeVerif
