/-
The front end on a text about which neither lexer nor recovering parser reports anything: the
non-whitespace tokens derive `value` in the token grammar and `parse_cst` computes `inferDoc` of the
derived document (`silent_run`, about a run of `rule_value`; `silent_parse`, about `parse`). Both
directions of C04 rest on it: `accept_sound` here, `json_is_inferred` in Props/C04.lean.
-/
import ShapeVerif.Lemmas.ParseSound
import ShapeVerif.Lemmas.LexInv
import ShapeVerif.Lemmas.EntryPoints
namespace ShapeVerif
open Shape

theorem keyOk_tokenize (src : List Char) : KeyOk src (keyOf src) (tokenize src).tokens := by
  intro t ht hk
  obtain ⟨txt, hsl, hlen⟩ := ((tokenize_ok src).toks t ht).str hk
  exact ⟨txt, hsl, hlen, by simp [keyOf, hsl]⟩

theorem tokensOk_tokenize (src : List Char) (hlex : (tokenize src).diags = []) : TokensOk (tokenize src).tokens :=
  ⟨fun t ht => ⟨(tokenize_kinds src).2 hlex t ht, (tokenize_kinds src).1 t ht⟩,
    fun t ht => ((tokenize_ok src).toks t ht).lt⟩

theorem fromStr_nil {s : Shape} : fromStr [] ≠ .ok s := by
  intro h
  have h2 := (accept_no_diagnostics [] s h).2
  have hroot : (parse []).root = .rule .file [] := by rfl
  rw [hroot] at h2
  simp only [parseCst, hasErrors, findSpan, List.filter_nil, List.length_nil, findNode] at h2
  unfold invalidJsonAt at h2
  have : ¬ (0 > 1) := by decide
  simp only [this, if_false] at h2
  split at h2 <;> cases h2

/-- `parse_cst` on the root the parser builds in clean mode: whitespace, one value node, whitespace -/
theorem parseCst_root (src : List Char) (pre sk : List Item) (n : Node) (d : Doc) (hpre : SkipItems pre)
    (hsk : SkipItems sk) (hvn : isValueRule n = true) (hev : Evals src n d) :
    parseCst src (.rule .file ((pre ++ (⟨n, false⟩ : Item) :: sk ++ []).map (fun i : Item => i.node))) =
      liftS (inferDoc d) := by
  have hroot : (pre ++ (⟨n, false⟩ : Item) :: sk ++ []).map (fun i : Item => i.node) =
      pre.map (·.node) ++ n :: sk.map (·.node) := by simp
  rw [hroot]
  have hnoerr : NoErrNodes (pre.map (·.node) ++ n :: sk.map (·.node)) :=
    noErr_append (skipItems_noErr hpre) (noErr_cons (valueRule_facts hvn).1 (skipItems_noErr hsk))
  have hnws : isWsNode n = false := by
    cases n with
    | tok k a b => simp [isValueRule] at hvn
    | rule r cs => rfl
  have hfilter : ((pre.map (·.node) ++ n :: sk.map (·.node)).filter (fun m => !isWsNode m)) = [n] := by
    rw [List.filter_append, List.filter_cons]
    have a : (pre.map (·.node)).filter (fun m => !isWsNode m) = [] := by
      rw [List.filter_eq_nil_iff]; intro m hm; simp [(hpre.node hm).1]
    have b : (sk.map (·.node)).filter (fun m => !isWsNode m) = [] := by
      rw [List.filter_eq_nil_iff]; intro m hm; simp [(hsk.node hm).1]
    simp [a, b, hnws]
  have hfind : ∀ l : List Node, (∀ m ∈ l, isWsNode m = true) → ∀ pe,
      ∃ pe', findNode (fun m => !isWsNode m) pe (l ++ n :: sk.map (·.node)) = some (n, pe') := by
    intro l
    induction l with
    | nil => intro _ pe; exact ⟨pe, by simp [findNode, hnws]⟩
    | cons m l ih =>
      intro hpre' pe
      obtain ⟨pe', h'⟩ := ih (fun x hx => hpre' x (by simp [hx])) (nodeEnd pe m)
      exact ⟨pe', by simp [findNode, hpre' m (by simp), h']⟩
  obtain ⟨pe', hf⟩ := hfind _ (fun _ hm => (hpre.node hm).1) 0
  simp only [parseCst, hasErrors_ok hnoerr, hfilter, List.length_singleton, Nat.lt_irrefl, if_false, hf, hev pe']

theorem clean_start (src : List Char) (hne : src ≠ []) (hlex : (tokenize src).diags = []) :
    SkipItems (takeSkips (tokenize src).tokens).1 ∧
    CleanSt (initState (tokenize src) (utf8Len src)) ∧
    KeyOk src (keyOf src) (initState (tokenize src) (utf8Len src)).toks ∧
    sig (initState (tokenize src) (utf8Len src)).toks = sig (tokenize src).tokens ∧
    2 * (initState (tokenize src) (utf8Len src)).toks.length + 2 ≤ 2 * (tokenize src).tokens.length + 4 := by
  obtain ⟨sk0, sg0, hd0, hok0⟩ := takeSkips_spec (tokenize src).tokens (tokensOk_tokenize src hlex)
  refine ⟨sk0, ⟨rfl, rfl, rfl, hd0, hok0, Nat.ne_of_gt (utf8Len_pos_of_ne_nil hne)⟩, ?_, sg0, ?_⟩
  · exact (keyOk_tokenize src).of_subset (takeSkips_subset _)
  · have := initState_len (tokenize src) (utf8Len src)
    simp only [L] at this
    omega

/-- the core of both directions of C04, about a run `rv` of `rule_value` from the start state.
`hend` is asked under `CleanSt` because both callers can tell that the parser stopped at the end of
the input only once they know its final state is clean. -/
theorem silent_run (src : List Char) (hne : src ≠ []) (hlex : (tokenize src).diags = []) {rv : PState × List Item}
    (hrv : ruleValue (2 * (tokenize src).tokens.length + 4) (initState (tokenize src) (utf8Len src)) = rv)
    (hd : rv.1.diags = (initState (tokenize src) (utf8Len src)).diags)
    (hend : CleanSt rv.1 → rv.1.current = .eof) :
    (parse src).diags = [] ∧
    ∃ d, TValue (keyOf src) (sig (tokenize src).tokens) d ∧ parseCst src (parse src).root = liftS (inferDoc d) := by
  subst hrv
  obtain ⟨hskips, hclean, hk0, hsig0, hfuel⟩ := clean_start src hne hlex
  have gv := (rules_sound src (keyOf src) _).1 _ hclean hk0 hfuel hd
  obtain ⟨n, sk, d, ph, hitems, hsk, hvn, hev, hsig, htv⟩ := gv.node
  have hcur := hend gv.clean
  have htnil := toks_nil_of_eof gv.clean hcur
  simp only [parse, parseTail, hcur, bne_self_eq_false, Bool.false_eq_true, if_false]
  refine ⟨?_, d, ?_, ?_⟩
  · rw [hd]
    show (tokenize src).diags.reverse.reverse = []
    rw [hlex]
    rfl
  · rw [← hsig0, hsig, htnil]
    simpa [sig] using htv
  · rw [hitems]
    exact parseCst_root src _ sk n d hskips hsk hvn hev

theorem silent_parse (src : List Char) (hne : src ≠ []) (h : (parse src).diags = []) :
    (tokenize src).diags = [] ∧
    ∃ d, TValue (keyOf src) (sig (tokenize src).tokens) d ∧ parseCst src (parse src).root = liftS (inferDoc d) := by
  have h' := h
  simp only [parse] at h'
  generalize hrv : ruleValue (2 * (tokenize src).tokens.length + 4) (initState (tokenize src) (utf8Len src)) = rv at h'
  have g1 : (initState (tokenize src) (utf8Len src)).diags <:+ rv.1.diags := by
    rw [← hrv]
    exact (grows_trace.rules _).1 _
  have g2 : rv.1.diags <:+ (parseTail rv.1).1.diags := by
    unfold parseTail
    split
    · exact grows_trace.error rv.1
    · exact List.suffix_rfl
  have hfin : (parseTail rv.1).1.diags = [] := by simpa using h'
  -- diagnostics only accumulate, so nothing was reported at any stage
  rw [hfin] at g2
  have hd0 := List.eq_nil_of_suffix_nil g2
  rw [hd0] at g1
  have hs0nil := List.eq_nil_of_suffix_nil g1
  have hlex : (tokenize src).diags = [] := by
    have : (tokenize src).diags.reverse = [] := hs0nil
    simpa using this
  have hd := hd0.trans hs0nil.symm
  refine ⟨hlex, (silent_run src hne hlex hrv hd ?_).2⟩
  intro hc
  -- a trailing token would have been reported by `parseTail`
  by_cases hcur : rv.1.current = .eof
  · exact hcur
  · exfalso
    have : (parseTail rv.1).1 = rv.1.error := by
      unfold parseTail
      simp [hcur]
    rw [this] at hfin
    exact error_changes hc (by rw [hfin, hd, hs0nil])

theorem accept_sound (src : List Char) (s : Shape) (h : fromStr src = .ok s) :
    (tokenize src).diags = [] ∧
    ∃ d, TValue (keyOf src) (sig (tokenize src).tokens) d ∧ inferDoc d = .ok s := by
  obtain ⟨hdiags, hcst⟩ := accept_no_diagnostics src s h
  obtain ⟨hlex, d, htv, hroot⟩ := silent_parse src (by rintro rfl; exact fromStr_nil h) hdiags
  exact ⟨hlex, d, htv, liftS_eq_ok.1 (hroot ▸ hcst)⟩

end ShapeVerif
