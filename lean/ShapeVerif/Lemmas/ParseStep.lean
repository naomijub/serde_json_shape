/-
The rule functions as compositions. A step of the parser takes a state to a state and the items it
emitted; the six rule functions are built from `expect`, `error` and `advanceWithError` by running
one step after another (`seq`), closing a rule (`close`) and branching on the look-ahead. The object
and the array rule are the same scheme, a bracketed comma-separated list with a recovery loop
(`bracket`, `sepLoop`), instantiated with `ruleMember` resp. `ruleValue` as the item.
A relation between the state before and the result that holds of the primitive moves and composes
(`Trace`) therefore holds of every rule function; `Stable` is the case of a predicate on states.
-/
import ShapeVerif.Model.Parser
namespace ShapeVerif

abbrev Step := PState → PState × List Item

namespace Step

def seq (f g : Step) : Step := fun s => ((g (f s).1).1, (f s).2 ++ (g (f s).1).2)

def close (r : Rule) (f : Step) : Step := fun s => ((f s).1, closeRule r (f s).2)

def err : Step := fun s => (s.error, [])

end Step

/-- one round of the recovery loop after the first item of a list -/
def sepLoop (stop : Tok → Bool) (item again : Step) : Step := fun s =>
  if s.current == .comma then Step.seq (Step.seq (·.expect .comma) item) again s
  else if stop s.current then (s, [])
  else (Step.seq PState.advanceWithError again) s

/-- what may stand between the brackets: a list, announced by its first token, or nothing; anything
else is reported -/
def optList (first : Tok → Bool) (cl : Tok) (item loop : Step) : Step := fun s =>
  if first s.current then (item.seq loop) s else if s.current == cl then (s, []) else (s.error, [])

/-- `op [ item loop ] cl` under a rule node -/
def bracket (r : Rule) (op cl : Tok) (first : Tok → Bool) (item loop : Step) : Step :=
  Step.close r (Step.seq (Step.seq (·.expect op) (optList first cl item loop)) (·.expect cl))

/-- both loops stop at `}`, `]` and the end; the order is that of the generated `match` arms -/
def stopO (k : Tok) : Bool := k == .rbrace || k == .eof || k == .rbrak
def stopA (k : Tok) : Bool := k == .rbrak || k == .eof || k == .rbrace

/-- a literal is its token, under a `literal` node (and a `boolean` node, if it is `true` or `false`) -/
def litStep (k : Tok) : Step :=
  Step.close .literal (if k == .false_ || k == .true_ then Step.close .boolean (·.expect k) else (·.expect k))

theorem ruleLiteral_eq (s : PState) :
    ruleLiteral s = if isLiteralStart s.current then litStep s.current s else Step.close .literal Step.err s := by
  unfold ruleLiteral ruleBoolean litStep Step.close Step.err
  generalize s.current = k
  cases k <;> rfl

/- Stated through the equation lemma (`rw [ruleMember]`): by `rfl` the same equations check at fifteen
times the cost, the recursion on fuel being unfolded through `brecOn`. -/
theorem ruleMember_succ (n : Nat) :
    ruleMember (n + 1) = Step.close .member (Step.seq (Step.seq (·.expect .string) (·.expect .colon)) (ruleValue n)) := by
  funext s; unfold Step.close Step.seq; rw [ruleMember]

theorem objectLoop_succ (n : Nat) : objectLoop (n + 1) = sepLoop stopO (ruleMember n) (objectLoop n) := by
  funext s; unfold sepLoop Step.seq stopO; rw [objectLoop]

theorem arrayLoop_succ (n : Nat) : arrayLoop (n + 1) = sepLoop stopA (ruleValue n) (arrayLoop n) := by
  funext s; unfold sepLoop Step.seq stopA; rw [arrayLoop]

theorem ruleObject_succ (n : Nat) :
    ruleObject (n + 1) = bracket .object .lbrace .rbrace (· == .string) (ruleMember n) (objectLoop n) := by
  funext s; unfold bracket optList Step.close Step.seq; rw [ruleObject]

theorem ruleArray_succ (n : Nat) :
    ruleArray (n + 1) = bracket .array .lbrak .rbrak isValueStart (ruleValue n) (arrayLoop n) := by
  funext s; unfold bracket optList Step.close Step.seq; rw [ruleArray]

theorem ruleValue_succ (n : Nat) (s : PState) :
    ruleValue (n + 1) s =
      if s.current == .lbrace then ruleObject n s else if s.current == .lbrak then ruleArray n s
      else if isLiteralStart s.current then ruleLiteral s else (s.error, []) := rfl

/-- a relation between the state before, and the state after with the items emitted, that holds of
the primitive moves of the parser and composes along `seq` and `close` -/
structure Trace (R : PState → PState × List Item → Prop) : Prop where
  skip : ∀ s, R s (s, [])
  seq : ∀ {s r1 r2}, R s r1 → R r1.1 r2 → R s (r2.1, r1.2 ++ r2.2)
  close : ∀ {s r} (k : Rule), R s r → R s (r.1, closeRule k r.2)
  error : ∀ s, R s (s.error, [])
  advance : ∀ s e, R s (s.advance e)
  cooldown : ∀ s, R s ({ s with cooldown := true }, [])

def Always (R : PState → PState × List Item → Prop) (f : Step) : Prop := ∀ s, R s (f s)

namespace Trace
variable {R : PState → PState × List Item → Prop} (h : Trace R)
include h

theorem always_seq {f g : Step} (hf : Always R f) (hg : Always R g) : Always R (f.seq g) := fun s => h.seq (hf s) (hg _)

theorem always_close {f : Step} (k : Rule) (hf : Always R f) : Always R (f.close k) := fun s => h.close k (hf s)

theorem expect (k : Tok) : Always R (·.expect k) := by
  intro s
  show R s (s.expect k)
  unfold PState.expect
  split
  · exact h.advance s false
  · exact h.error s

theorem advanceWithError : Always R PState.advanceWithError := fun s =>
  h.close .error (by simpa using h.seq (h.seq (h.error s) (h.cooldown _)) (h.advance _ true))

theorem litStep (k : Tok) : Always R (litStep k) := by
  unfold ShapeVerif.litStep
  split
  · exact h.always_close _ (h.always_close _ (h.expect k))
  · exact h.always_close _ (h.expect k)

theorem ruleLiteral : Always R ruleLiteral := by
  intro s
  rw [ruleLiteral_eq]
  split
  · exact h.litStep _ s
  · exact h.close _ (h.error s)

theorem sepLoop (stop : Tok → Bool) {item again : Step} (hi : Always R item) (ha : Always R again) :
    Always R (sepLoop stop item again) := by
  intro s
  unfold ShapeVerif.sepLoop
  split
  · exact h.always_seq (h.always_seq (h.expect _) hi) ha s
  split
  · exact h.skip s
  · exact h.always_seq h.advanceWithError ha s

theorem optList (first : Tok → Bool) (cl : Tok) {item loop : Step} (hi : Always R item) (hl : Always R loop) :
    Always R (optList first cl item loop) := by
  intro s
  unfold ShapeVerif.optList
  split
  · exact h.always_seq hi hl s
  split
  · exact h.skip s
  · exact h.error s

theorem bracket (r : Rule) (op cl : Tok) (first : Tok → Bool) {item loop : Step} (hi : Always R item)
    (hl : Always R loop) : Always R (bracket r op cl first item loop) :=
  h.always_close r (h.always_seq (h.always_seq (h.expect op) (h.optList first cl hi hl)) (h.expect cl))

theorem rules (fuel : Nat) :
    Always R (ruleValue fuel) ∧ Always R (ruleMember fuel) ∧ Always R (objectLoop fuel) ∧ Always R (ruleObject fuel) ∧
      Always R (arrayLoop fuel) ∧ Always R (ruleArray fuel) := by
  induction fuel with
  | zero => exact ⟨h.skip, h.skip, h.skip, h.skip, h.skip, h.skip⟩
  | succ n ih =>
    obtain ⟨ihV, ihM, ihOL, ihO, ihAL, ihA⟩ := ih
    refine ⟨fun s => ?_, ?_, ?_, ?_, ?_, ?_⟩
    · rw [ruleValue_succ]
      by_cases hO : (s.current == .lbrace) = true
      · rw [if_pos hO]
        exact ihO s
      rw [if_neg hO]
      by_cases hA : (s.current == .lbrak) = true
      · rw [if_pos hA]
        exact ihA s
      rw [if_neg hA]
      split
      · exact h.ruleLiteral s
      · exact h.error s
    · rw [ruleMember_succ]; exact h.always_close _ (h.always_seq (h.always_seq (h.expect _) (h.expect _)) ihV)
    · rw [objectLoop_succ]; exact h.sepLoop _ ihM ihOL
    · rw [ruleObject_succ]; exact h.bracket _ _ _ _ ihM ihOL
    · rw [arrayLoop_succ]; exact h.sepLoop _ ihV ihAL
    · rw [ruleArray_succ]; exact h.bracket _ _ _ _ ihV ihAL

end Trace

structure Stable (P : PState → Prop) : Prop where
  error : ∀ s, P s → P s.error
  advance : ∀ s e, P s → P (s.advance e).1
  cooldown : ∀ s, P s → P { s with cooldown := true }

variable {P : PState → Prop}

def Keeps (P : PState → Prop) (f : Step) : Prop := Always (fun s r => P s → P r.1) f

theorem Stable.trace (h : Stable P) : Trace fun s r => P s → P r.1 where
  skip _ := id
  seq h1 h2 := h2 ∘ h1
  close _ h := h
  error := h.error
  advance := h.advance
  cooldown := h.cooldown

theorem Stable.expect (h : Stable P) (k : Tok) (s : PState) (hs : P s) : P (s.expect k).1 :=
  h.trace.expect k s hs

theorem Stable.advanceWithError (h : Stable P) (s : PState) (hs : P s) : P s.advanceWithError.1 :=
  h.trace.advanceWithError s hs

theorem Stable.rules (h : Stable P) (fuel : Nat) :
    Keeps P (ruleValue fuel) ∧ Keeps P (ruleMember fuel) ∧ Keeps P (objectLoop fuel) ∧
      Keeps P (ruleObject fuel) ∧ Keeps P (arrayLoop fuel) ∧ Keeps P (ruleArray fuel) := h.trace.rules fuel

theorem Stable.parseTail (h : Stable P) (s : PState) (hs : P s) : P (parseTail s).1 := by
  unfold ShapeVerif.parseTail
  split
  · exact h.error s hs
  · exact hs

end ShapeVerif
