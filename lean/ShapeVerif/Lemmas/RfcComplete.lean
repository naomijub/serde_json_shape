/-
`Rfc.parse` (the executable recursive-descent reading of RFC 8259 used by the run-time oracle) is
complete for the specification `JsonTextVia`: every text that can be cut into lexemes deriving a
document in the token grammar is accepted by `Rfc.parse`, with that document (payloads erased, names
unescaped). Together with `parse_sound` the oracle and the specification accept the same texts.
The readers are led along a spelling (`Spell`) of the derivation's tokens; the fuel a reader needs is
bounded by the number of characters it consumes.
-/
import ShapeVerif.Lemmas.RfcSound
import ShapeVerif.Lemmas.GrammarInduct
namespace ShapeVerif
open Rfc

theorem skipWs_allWs : ∀ (w x : List Char), allWs w → skipWs (w ++ x) = skipWs x
  | [], _, _ => rfl
  | c :: w, x, h => by
    simp only [List.cons_append, skipWs, (allWs_cons.1 h).1, if_true]
    exact skipWs_allWs w x (allWs_cons.1 h).2

theorem skipWs_cons {c : Char} (h : isWs c = false) (x : List Char) : skipWs (c :: x) = c :: x := by
  simp [skipWs, h]

theorem skipWs_length_le (x : List Char) : (skipWs x).length ≤ x.length := by
  obtain ⟨w, h, _⟩ := skipWs_split x
  have := congrArg List.length h
  rw [List.length_append] at this
  omega

/-- the first characters that open one of `value`'s six alternatives other than a number -/
def openers : List Char := ['t', 'f', 'n', '"', '[', '{']

theorem value_of_not_opener {c : Char} (hc : ∀ x ∈ openers, c ≠ x) (fuel : Nat) (tl : List Char) :
    value (fuel + 1) (c :: tl) = (number (c :: tl)).map fun p => (.num (String.ofList p.1), p.2) := by
  unfold value
  split
  case h_7 => cases number (c :: tl) <;> rfl
  all_goals exact absurd (List.cons.inj ‹_ = _›).1 (hc _ (by decide))

theorem value_close_none {c : Char} (hc : c = ']' ∨ c = '}') (fuel : Nat) (r : List Char) : value fuel (c :: r) = none := by
  cases fuel with
  | zero =>
    unfold value
    rfl
  | succ f =>
    have hnum : number (c :: r) = none := by
      rcases hc with rfl | rfl <;> rfl
    rw [value_of_not_opener (by rcases hc with rfl | rfl <;> decide), hnum]
    rfl

theorem elements_close_none (fuel : Nat) (r : List Char) : elements fuel (']' :: r) = none := by
  cases fuel with
  | zero =>
    unfold elements
    rfl
  | succ f =>
    unfold elements
    simp only [value_close_none (.inl rfl) f r]

theorem members_close_none (fuel : Nat) (r : List Char) : members fuel ('}' :: r) = none := by
  cases fuel <;> (unfold members; rfl)

theorem skipWs_cons_lt {r r' : List Char} {c : Char} (h : skipWs r = c :: r') :
    (skipWs r').length ≤ r'.length ∧ r'.length < r.length := by
  have := skipWs_length_le r
  rw [h] at this
  exact ⟨skipWs_length_le r', this⟩

theorem stringBody_lt {r s r' : List Char} (h : stringBody r = some (s, r')) : r'.length < r.length := by
  rw [(stringBody_sound h).2]
  simp
  omega

/-- `f` reads `x` off the front of `cs` and leaves `cs'`, from any fuel `n` or more; the characters consumed cover
`n`, so the length of the text is fuel enough at the top -/
def Parses {α : Type} (f : Nat → List Char → Option (α × List Char)) (cs : List Char) (x : α) (cs' : List Char) : Prop :=
  ∃ n, (∀ fuel, n ≤ fuel → f fuel cs = some (x, cs')) ∧ n + cs'.length ≤ cs.length ∧ 1 ≤ n

namespace Parses
variable {α β γ : Type} {f : Nat → List Char → Option (α × List Char)} {g : Nat → List Char → Option (β × List Char)}
  {g' : Nat → List Char → Option (γ × List Char)} {cs cs' cs1 cs2 r1 r2 : List Char} {x : α} {y : β} {z : γ}

/-- a reader that calls no other consumes at least one character -/
theorem leaf (hl : cs'.length < cs.length) (h : ∀ fuel, f (fuel + 1) cs = some (x, cs')) : Parses f cs x cs' := by
  refine ⟨1, fun fuel hf => ?_, by omega, Nat.le_refl 1⟩
  obtain ⟨k, rfl⟩ := Nat.exists_eq_add_of_le' hf
  exact h k

/-- `f` calls `g` with one unit of fuel less and consumes at least one character more -/
theorem node (h1 : Parses g cs1 y r1) (hl : cs1.length + cs'.length < cs.length + r1.length)
    (h : ∀ fuel, g fuel cs1 = some (y, r1) → f (fuel + 1) cs = some (x, cs')) : Parses f cs x cs' := by
  obtain ⟨n, hg, hn, _⟩ := h1
  refine ⟨n + 1, fun fuel hf => ?_, by omega, Nat.le_add_left 1 n⟩
  obtain ⟨k, rfl⟩ := Nat.exists_eq_add_of_le' (Nat.le_trans (Nat.le_add_left 1 n) hf)
  exact h k (hg k (Nat.le_of_succ_le_succ hf))

theorem node2 (h1 : Parses g cs1 y r1) (h2 : Parses g' cs2 z r2)
    (hl : cs1.length + cs2.length + cs'.length < cs.length + r1.length + r2.length)
    (h : ∀ fuel, g fuel cs1 = some (y, r1) → g' fuel cs2 = some (z, r2) → f (fuel + 1) cs = some (x, cs')) :
    Parses f cs x cs' := by
  obtain ⟨n, hg, hn, _⟩ := h1
  obtain ⟨m, hg', hm, _⟩ := h2
  refine ⟨n + m + 1, fun fuel hf => ?_, by omega, Nat.le_add_left 1 _⟩
  obtain ⟨k, rfl⟩ := Nat.exists_eq_add_of_le' (Nat.le_trans (Nat.le_add_left 1 _) hf)
  exact h k (hg k (by omega)) (hg' k (by omega))

theorem null (r : List Char) : Parses value ('n' :: 'u' :: 'l' :: 'l' :: r) .null r :=
  .leaf (by simp only [List.length_cons]; omega) fun _ => by rw [value]

theorem tru (r : List Char) : Parses value ('t' :: 'r' :: 'u' :: 'e' :: r) (.bool true) r :=
  .leaf (by simp only [List.length_cons]; omega) fun _ => by rw [value]

theorem fls (r : List Char) : Parses value ('f' :: 'a' :: 'l' :: 's' :: 'e' :: r) (.bool false) r :=
  .leaf (by simp only [List.length_cons]; omega) fun _ => by rw [value]

theorem str {r s r' : List Char} (h : stringBody r = some (s, r')) : Parses value ('"' :: r) (.str (String.ofList s)) r' :=
  .leaf (Nat.lt_succ_of_lt (stringBody_lt h)) fun _ => by rw [value, h]

theorem num {cs n r : List Char} (h : number cs = some (n, r)) : Parses value cs (.num (String.ofList n)) r := by
  obtain ⟨rfl, hn⟩ := number_self h
  obtain ⟨c, tl, rfl, hc⟩ := number_head hn
  refine .leaf (by simp; omega) fun _ => ?_
  have hopen : ∀ x ∈ openers, c ≠ x := by
    rcases hc with rfl | hc
    · decide
    · have : ∀ x ∈ openers, isDigitC x = false := by decide
      intro x hx e
      rw [e, this x hx] at hc
      cases hc
  rw [List.cons_append, value_of_not_opener hopen, ← List.cons_append, h]
  rfl

theorem arrE {r r' : List Char} (h : skipWs r = ']' :: r') : Parses value ('[' :: r) (.arr []) r' :=
  .leaf (Nat.lt_succ_of_lt (skipWs_cons_lt h).2) fun _ => by rw [value]; simp only [h]

theorem objE {r r' : List Char} (h : skipWs r = '}' :: r') : Parses value ('{' :: r) (.obj []) r' :=
  .leaf (Nat.lt_succ_of_lt (skipWs_cons_lt h).2) fun _ => by rw [value]; simp only [h]

theorem arr {r r' : List Char} {xs : List Doc} (h : Parses elements (skipWs r) xs r') :
    Parses value ('[' :: r) (.arr xs) r' := by
  refine h.node (by have := skipWs_length_le r; simp; omega) fun fuel he => ?_
  rw [value]
  split
  · rename_i hsk
    rw [hsk, elements_close_none] at he
    cases he
  · rw [he]

theorem obj {r r' : List Char} {ms : List (String × Doc)} (h : Parses members (skipWs r) ms r') :
    Parses value ('{' :: r) (.obj ms) r' := by
  refine h.node (by have := skipWs_length_le r; simp; omega) fun fuel he => ?_
  rw [value]
  split
  · rename_i hsk
    rw [hsk, members_close_none] at he
    cases he
  · rw [he]

theorem eOne {cs r r' : List Char} {x : Doc} (hv : Parses value cs x r) (hs : skipWs r = ']' :: r') :
    Parses elements cs [x] r' :=
  hv.node (by have := skipWs_cons_lt hs; omega) fun _ h => by unfold elements; simp only [h, hs]

theorem eCons {cs r r' r'' : List Char} {x : Doc} {xs : List Doc} (hv : Parses value cs x r) (hs : skipWs r = ',' :: r')
    (he : Parses elements (skipWs r') xs r'') : Parses elements cs (x :: xs) r'' :=
  hv.node2 he (by have := skipWs_cons_lt hs; omega) fun _ h1 h2 => by
    unfold elements; simp only [h1, hs, h2]

theorem mOne {r k r1 r2 r3 r4 : List Char} {v : Doc} (hs : stringBody r = some (k, r1)) (hc : skipWs r1 = ':' :: r2)
    (hv : Parses value (skipWs r2) v r3) (he : skipWs r3 = '}' :: r4) :
    Parses members ('"' :: r) [(String.ofList k, v)] r4 :=
  hv.node (by
      have := stringBody_lt hs; have := skipWs_cons_lt hc; have := skipWs_cons_lt he
      simp only [List.length_cons]; omega) fun _ h => by
    unfold members; simp only [hs, hc, h, he]

theorem mCons {r k r1 r2 r3 r4 r5 : List Char} {v : Doc} {ms : List (String × Doc)} (hs : stringBody r = some (k, r1))
    (hc : skipWs r1 = ':' :: r2) (hv : Parses value (skipWs r2) v r3) (he : skipWs r3 = ',' :: r4)
    (hm : Parses members (skipWs r4) ms r5) : Parses members ('"' :: r) ((String.ofList k, v) :: ms) r5 :=
  hv.node2 hm (by
      have := stringBody_lt hs; have := skipWs_cons_lt hc; have := skipWs_cons_lt he
      simp only [List.length_cons]; omega) fun _ h1 h2 => by
    unfold members; simp only [hs, hc, h1, he, h2]

end Parses

/-- the rest `cs` of `src` spells `nts`: what the readers are led along (the position in it serves the member names,
`keyOf`, alone) -/
def SpellAt (src : List Char) (nts : List Token) (cs : List Char) : Prop := ∃ pos, Spell pos nts cs ∧ At src pos cs

/-- the first grammar token of a spelling is read off the front of the text, after whitespace -/
theorem spell_step {src : List Char} {t : Token} {nts : List Token} {cs : List Char} (h : SpellAt src (t :: nts) cs) :
    ∃ txt rest, skipWs cs = txt ++ rest ∧ lexemeOk t.kind txt = true ∧ SpellAt src nts rest ∧
      keyOf src t = memberName txt := by
  obtain ⟨pos, h, ha⟩ := h
  cases h with
  | @tok _ w txt rest _ _ hw hs he hk hv hrest =>
    obtain ⟨c, tl, rfl, hcw⟩ := lexeme_head hk hv
    have hsk : skipWs (w ++ (c :: tl) ++ rest) = c :: tl ++ rest := by
      rw [List.append_assoc, skipWs_allWs w _ hw, List.cons_append, skipWs_cons hcw]
    rw [List.append_assoc] at ha
    have ha1 := ha.advance
    rw [← hs] at ha1
    refine ⟨c :: tl, rest, hsk, hv, ⟨_, hrest, he ▸ ha1.advance⟩, ?_⟩
    unfold keyOf
    rw [he, ha1.slice]

theorem spell_fixed {src : List Char} {t : Token} {nts : List Token} {cs s : List Char} {k : Tok}
    (hk : t.kind = k) (hf : fixedText k = some s) (h : SpellAt src (t :: nts) cs) :
    ∃ rest, skipWs cs = s ++ rest ∧ SpellAt src nts rest := by
  obtain ⟨txt, rest, hsk, hv, h', _⟩ := spell_step h
  rw [hk] at hv
  rw [(lexemeOk_fixed hf).1 hv] at hsk
  exact ⟨rest, hsk, h'⟩

theorem closerLed_cons {t : Token} {k : Tok} (r : List Token) (hk : t.kind = k) (h : isCloser k = true) :
    CloserLed (t :: r) := by
  intro b tl e
  simp only [List.cons.injEq] at e
  rw [← e.1, hk]
  exact h

/-! ### the three readers follow a derivation

Each reader, started after whitespace at a point the derivation's tokens are spelled from, reads the derivation's
document. -/

variable {src : List Char}

theorem readers_complete :
    (∀ {ph : List Token} {d : Doc}, TValue (keyOf src) ph d →
      ∀ (r : List Token) (cs : List Char), SpellAt src (ph ++ r) cs → CloserLed r →
      ∃ d' cs', Parses value (skipWs cs) d' cs' ∧ specDoc d' = d ∧ SpellAt src r cs') ∧
    (∀ {ts : List Token} {xs : List Doc}, TElems (keyOf src) ts xs →
      ∀ (rt : Token) (r : List Token) (cs : List Char), rt.kind = .rbrak → SpellAt src (ts ++ rt :: r) cs →
      ∃ xs' cs', Parses elements (skipWs cs) xs' cs' ∧ specDocs xs' = xs ∧ SpellAt src r cs') ∧
    (∀ {ts : List Token} {ms : List (String × Doc)}, TMembers (keyOf src) ts ms →
      ∀ (rt : Token) (r : List Token) (cs : List Char), rt.kind = .rbrace → SpellAt src (ts ++ rt :: r) cs →
      ∃ ms' cs', Parses members (skipWs cs) ms' cs' ∧ specMembers ms' = ms ∧ SpellAt src r cs') := by
  apply TValue.induct
  case null =>
    intro t hk r cs h hc
    obtain ⟨rest, hsk, h1⟩ := spell_fixed hk rfl h
    exact ⟨.null, rest, hsk ▸ .null rest, rfl, h1⟩
  case tru =>
    intro t hk r cs h hc
    obtain ⟨rest, hsk, h1⟩ := spell_fixed hk rfl h
    exact ⟨.bool true, rest, hsk ▸ .tru rest, rfl, h1⟩
  case fls =>
    intro t hk r cs h hc
    obtain ⟨rest, hsk, h1⟩ := spell_fixed hk rfl h
    exact ⟨.bool false, rest, hsk ▸ .fls rest, rfl, h1⟩
  case num =>
    intro t hk r cs h hc
    obtain ⟨txt, rest, hsk, hv, ⟨p, hs1, ha1⟩, _⟩ := spell_step h
    rw [hk] at hv
    have hnum : Rfc.number txt = some (txt, []) := by simpa [lexemeOk] using hv
    exact ⟨.num (String.ofList txt), rest, hsk ▸ .num (number_follow hnum (follow_closer hs1 hc)), rfl, p, hs1, ha1⟩
  case str =>
    intro t hk r cs h hc
    obtain ⟨txt, rest, hsk, hv, h1, _⟩ := spell_step h
    rw [hk] at hv
    obtain ⟨s, rfl, hb⟩ := lexemeOk_string.1 hv
    refine ⟨.str (String.ofList s), rest, ?_, rfl, h1⟩
    rw [hsk]
    simpa using Parses.str (stringBody_complete hb rest)
  case arrE =>
    intro l rt hl hr r cs h hc
    obtain ⟨rest1, hsk, h1⟩ := spell_fixed hl rfl h
    obtain ⟨rest2, hsk2, h2⟩ := spell_fixed hr rfl h1
    exact ⟨.arr [], rest2, hsk ▸ .arrE hsk2, rfl, h2⟩
  case arr =>
    intro l rt ts xs hl hr _ ihE r cs h hc
    obtain ⟨rest1, hsk, h1⟩ := spell_fixed (nts := ts ++ rt :: r) hl rfl (by simpa using h)
    obtain ⟨xs', cs', he, hspec, h'⟩ := ihE rt r rest1 hr h1
    exact ⟨.arr xs', cs', hsk ▸ he.arr, by simp only [specDoc, hspec], h'⟩
  case objE =>
    intro l rt hl hr r cs h hc
    obtain ⟨rest1, hsk, h1⟩ := spell_fixed hl rfl h
    obtain ⟨rest2, hsk2, h2⟩ := spell_fixed hr rfl h1
    exact ⟨.obj [], rest2, hsk ▸ .objE hsk2, rfl, h2⟩
  case obj =>
    intro l rt ts ms hl hr _ ihM r cs h hc
    obtain ⟨rest1, hsk, h1⟩ := spell_fixed (nts := ts ++ rt :: r) hl rfl (by simpa using h)
    obtain ⟨ms', cs', hm, hspec, h'⟩ := ihM rt r rest1 hr h1
    exact ⟨.obj ms', cs', hsk ▸ hm.obj, by simp only [specDoc, hspec], h'⟩
  case eOne =>
    intro ts x _ ihV rt r cs hrt h
    obtain ⟨d', cs1, hv, hspec, h1⟩ := ihV (rt :: r) cs h (closerLed_cons r hrt rfl)
    obtain ⟨rest2, hsk2, h2⟩ := spell_fixed hrt rfl h1
    exact ⟨[d'], rest2, hv.eOne hsk2, by simp only [specDocs, hspec], h2⟩
  case eCons =>
    intro c ts rest x xs hc _ _ ihV ihE rt r cs hrt h
    obtain ⟨d', cs1, hv, hspec, h1⟩ :=
      ihV (c :: (rest ++ rt :: r)) cs (by simpa using h) (closerLed_cons _ hc rfl)
    obtain ⟨rest2, hsk2, h2⟩ := spell_fixed hc rfl h1
    obtain ⟨xs', cs', he, hspecE, h'⟩ := ihE rt r rest2 hrt h2
    exact ⟨d' :: xs', cs', hv.eCons hsk2 he, by simp only [specDocs, hspec, hspecE], h'⟩
  case mOne =>
    intro k c ts v hk hc _ ihV rt r cs hrt h
    obtain ⟨txtk, rest1, hsk1, hv1, h1, hkey⟩ := spell_step (nts := c :: (ts ++ rt :: r)) (by simpa using h)
    rw [hk] at hv1
    obtain ⟨s, rfl, hb⟩ := lexemeOk_string.1 hv1
    obtain ⟨rest2, hsk2, h2⟩ := spell_fixed hc rfl h1
    obtain ⟨v', cs3, hv, hspec, h3⟩ := ihV (rt :: r) rest2 h2 (closerLed_cons r hrt rfl)
    obtain ⟨rest4, hsk4, h4⟩ := spell_fixed hrt rfl h3
    refine ⟨[(String.ofList s, v')], rest4, ?_, by simp [specMembers, hspec, hkey], h4⟩
    rw [hsk1]
    simpa using Parses.mOne (stringBody_complete hb rest1) hsk2 hv hsk4
  case mCons =>
    intro k c m ts rest v ms hk hc hm _ _ ihV ihM rt r cs hrt h
    obtain ⟨txtk, rest1, hsk1, hv1, h1, hkey⟩ :=
      spell_step (nts := c :: (ts ++ m :: (rest ++ rt :: r))) (by simpa using h)
    rw [hk] at hv1
    obtain ⟨s, rfl, hb⟩ := lexemeOk_string.1 hv1
    obtain ⟨rest2, hsk2, h2⟩ := spell_fixed hc rfl h1
    obtain ⟨v', cs3, hv, hspec, h3⟩ := ihV (m :: (rest ++ rt :: r)) rest2 h2 (closerLed_cons _ hm rfl)
    obtain ⟨rest4, hsk4, h4⟩ := spell_fixed hm rfl h3
    obtain ⟨ms', cs', hms, hspecM, h'⟩ := ihM rt r rest4 hrt h4
    refine ⟨(String.ofList s, v') :: ms', cs', ?_, by simp [specMembers, hspec, hspecM, hkey], h'⟩
    rw [hsk1]
    simpa using Parses.mCons (stringBody_complete hb rest1) hsk2 hv hsk4 hms

theorem elems_complete : ∀ {ts : List Token} {xs : List Doc}, TElems (keyOf src) ts xs →
    ∀ (rt : Token) (r : List Token) (pos : Nat) (cs : List Char), rt.kind = .rbrak →
    Spell pos (ts ++ rt :: r) cs → At src pos cs →
    ∃ xs' cs' p' n, (∀ fuel, n ≤ fuel → elements fuel (skipWs cs) = some (xs', cs')) ∧ specDocs xs' = xs ∧
      Spell p' r cs' ∧ At src p' cs' ∧ n + cs'.length ≤ (skipWs cs).length ∧ 1 ≤ n :=
  fun h rt r pos cs hrt hs ha =>
    let ⟨xs', cs', ⟨n, hf, hl, h1⟩, hx, p', hsp, hat⟩ := readers_complete.2.1 h rt r cs hrt ⟨pos, hs, ha⟩
    ⟨xs', cs', p', n, hf, hx, hsp, hat, hl, h1⟩

theorem members_complete : ∀ {ts : List Token} {ms : List (String × Doc)}, TMembers (keyOf src) ts ms →
    ∀ (rt : Token) (r : List Token) (pos : Nat) (cs : List Char), rt.kind = .rbrace →
    Spell pos (ts ++ rt :: r) cs → At src pos cs →
    ∃ ms' cs' p' n, (∀ fuel, n ≤ fuel → members fuel (skipWs cs) = some (ms', cs')) ∧ specMembers ms' = ms ∧
      Spell p' r cs' ∧ At src p' cs' ∧ n + cs'.length ≤ (skipWs cs).length ∧ 1 ≤ n :=
  fun h rt r pos cs hrt hs ha =>
    let ⟨ms', cs', ⟨n, hf, hl, h1⟩, hx, p', hsp, hat⟩ := readers_complete.2.2 h rt r cs hrt ⟨pos, hs, ha⟩
    ⟨ms', cs', p', n, hf, hx, hsp, hat, hl, h1⟩

/-- (of `Rfc.parse`, not the model's `parse`) the oracle accepts what the specification accepts -/
theorem parse_complete (cs : List Char) (d : Doc) (h : JsonText cs d) : ∃ d', Rfc.parse cs = some d' ∧ specDoc d' = d := by
  obtain ⟨toks, htiles, hval⟩ := h
  have hsp : Spell 0 (sig toks) cs := spell_of_tiles toks 0 cs htiles
  obtain ⟨d', cs', ⟨n, hfuel, hlen, _⟩, hspec, p', hrest, _⟩ :=
    (readers_complete (src := cs)).1 hval [] cs ⟨0, by simpa [sig] using hsp, [], rfl, rfl⟩ (by intro b tl e; cases e)
  have hws : allWs cs' := by
    cases hrest with
    | done hw => exact hw
  have hn : n ≤ cs.length + 1 := by
    have := skipWs_length_le cs
    omega
  refine ⟨d', ?_, hspec⟩
  unfold Rfc.parse
  rw [hfuel _ hn]
  have : skipWs cs' = [] := by
    have := skipWs_allWs cs' [] hws
    rwa [List.append_nil] at this
  simp [this]

theorem parse_iff_jsonText (cs : List Char) : (∃ d', Rfc.parse cs = some d') ↔ ∃ d, JsonText cs d :=
  ⟨fun ⟨d', h⟩ => ⟨specDoc d', parse_sound cs d' h⟩, fun ⟨d, h⟩ => (parse_complete cs d h).imp fun _ hh => hh.1⟩

end ShapeVerif
