/-
What the tokens and diagnostics of `tokenize` satisfy, for every text: token spans are ordered pairs
of character boundaries that follow each other, a `String` token spans at least its two quotes, every
diagnostic carries an ordered pair of character boundaries (the ranges `check_string` computes
included), no token is `EOF`, an `Error` token comes with a diagnostic, no prefix of the tokens has more
than 256 brackets open. And lexer soundness: without diagnostics the tokens cut the text into RFC 8259
lexemes.
-/
import ShapeVerif.Lemmas.Slice
import ShapeVerif.Lemmas.LexRun
namespace ShapeVerif

/-- a token against the text: its span is a non-empty range between character boundaries, and a `String`
token can be sliced out with its two quotes (what `parse_member`'s key slice needs). About the source
text; `TokensOk` (ParseClean) is about kinds only and unrelated. -/
structure TokOk (src : List Char) (t : Token) : Prop where
  bs : Boundary src t.start
  be : Boundary src t.stop
  lt : t.start < t.stop
  str : t.kind = .string → ∃ text, sliceBytes src t.start t.stop = some text ∧ 2 ≤ text.length

/-- the diagnostic's range can be sliced out of the text (`reject_diagnostics` does, with the first) -/
def DiagOk (src : List Char) (d : Diag) : Prop :=
  Boundary src d.start ∧ Boundary src d.stop ∧ d.start ≤ d.stop

/-- What the state of `check_string` at token-relative offset `pos` remembers, as byte offsets of `src`
(the token starts at `start`): the pending backslash sits on a character boundary one byte before `pos`,
resp. before the `u` at `iu`, and the hex digits read since are one byte each. A boundary stays one,
so nothing about the characters consumed has to be kept. -/
def CsInv (src : List Char) (start : Nat) : CsState → Nat → Prop
  | .normal, _ => True
  | .esc, pos => Boundary src (start + pos - 1)
  | .hex iu done, pos => Boundary src (start + iu - 1) ∧ start + iu + done + 1 = start + pos

theorem check_step {src x : List Char} {c : Char} {start pos : Nat} (h : At src (start + pos) (c :: x)) :
    At src (start + (pos + c.utf8Size)) x ∧ Boundary src (start + pos) ∧ Boundary src (start + pos + c.utf8Size) := by
  have h' : At src (start + pos + utf8Len [c]) x := h.advance (a := [c])
  rw [utf8Len_cons, utf8Len_nil, Nat.add_zero] at h'
  exact ⟨Nat.add_assoc .. ▸ h', h.boundary, h'.boundary⟩

theorem checkStringGo_ok {src : List Char} {start : Nat} (todo : List Char) (st : CsState) (pos : Nat) :
    ∀ rest, At src (start + pos) (todo ++ rest) → CsInv src start st pos →
      ∀ d ∈ checkStringGo start st pos todo, DiagOk src d := by
  have sub_le : ∀ a b : Nat, a - 1 ≤ a + b := fun a b => Nat.le_trans (Nat.sub_le _ _) (Nat.le_add_right _ _)
  fun_induction checkStringGo start st pos todo
  case case1 | case2 => intro _ _ _ d hd; cases hd
  case case3 iu done pos =>
    intro rest ha ⟨hb, hp⟩
    exact List.forall_mem_singleton.2 ⟨hb, hp ▸ ha.boundary, Nat.le_trans (sub_le _ _) (Nat.le_add_right _ _)⟩
  case case4 pos c todo hc ih =>
    intro rest ha _
    cases beq_iff_eq.1 hc
    obtain ⟨a1, b0, _⟩ := check_step ha
    exact ih rest a1 b0
  case case5 pos c todo _ hctl ih =>
    intro rest ha _
    obtain ⟨a1, b0, b1⟩ := check_step ha
    rw [utf8Size_of_lt (Nat.lt_trans hctl (by decide))] at b1
    exact List.forall_mem_cons.2 ⟨⟨b0, b1, Nat.le_succ _⟩, ih rest a1 trivial⟩
  case case6 ih | case7 ih | case10 ih =>
    intro rest ha _
    exact ih rest (check_step ha).1 trivial
  case case8 pos e todo _ hu ih =>
    intro rest ha hb
    cases beq_iff_eq.1 hu
    exact ih rest (check_step ha).1 ⟨hb, rfl⟩
  case case9 pos e todo _ _ ih =>
    intro rest ha hb
    obtain ⟨a1, _, b1⟩ := check_step ha
    exact List.forall_mem_cons.2 ⟨⟨hb, b1, sub_le _ _⟩, ih rest a1 trivial⟩
  case case11 iu done pos h todo hh _ ih =>
    intro rest ha ⟨hb, hp⟩
    exact ih rest (check_step ha).1 ⟨hb, by rw [isHexC_size hh]; exact congrArg Nat.succ hp⟩
  case case12 iu done pos h todo _ ih =>
    intro rest ha ⟨hb, hp⟩
    exact List.forall_mem_cons.2 ⟨⟨hb, hp ▸ ha.boundary, Nat.le_trans (sub_le _ _) (Nat.le_add_right _ _)⟩,
      ih rest (check_step ha).1 trivial⟩

/-- what `tokenize` guarantees for every text (`tokenize_ok`): every token `TokOk`, tokens in order, every
diagnostic `DiagOk`. `ListOk` (CstTotal) is its token part on a bare list. -/
structure LexOk (src : List Char) (r : LexResult) : Prop where
  toks : ∀ t ∈ r.tokens, TokOk src t
  chain : r.tokens.Pairwise (fun a b => a.stop ≤ b.start)
  diags : ∀ d ∈ r.diags, DiagOk src d

/-- the span of one step's text, whatever kind the token gets -/
theorem step_span {src cs text rest : List Char} {pos : Nat} {k : Tok} {dk : Option DiagKind} (hne : cs ≠ [])
    (hr : lexOne cs = (k, dk, text, rest)) (ha : At src pos cs) :
    At src pos (text ++ rest) ∧
      ∀ k', (k' = .string → k = .string) → TokOk src ⟨k', pos, pos + utf8Len text⟩ := by
  have ok := lexOne_ok hne
  rw [hr] at ok
  have ha' : At src pos (text ++ rest) := by rw [ok.split]; exact ha
  exact ⟨ha', fun k' hk => ⟨ha.boundary, ha'.advance.boundary, Nat.lt_add_of_pos_right (utf8Len_pos_of_ne_nil ok.ne),
    fun e => ⟨text, ha'.slice, ok.len2 (hk e)⟩⟩⟩

theorem strDiags_ok {src text rest : List Char} {pos : Nat} (ha : At src pos (text ++ rest)) (k : Tok) :
    ∀ d ∈ strDiags k pos text, DiagOk src d := by
  by_cases hk : k = .string
  · rw [hk, strDiags_string]
    exact checkStringGo_ok text .normal 0 rest ha trivial
  · rw [strDiags_of_ne_string hk]
    exact fun d hd => nomatch hd

theorem tokOk_cons {src : List Char} {t : Token} {ts : List Token} (t0 : TokOk src t)
    (i1 : ∀ u ∈ ts, TokOk src u ∧ t.stop ≤ u.start) (i2 : ts.Pairwise (fun a b => a.stop ≤ b.start)) :
    (∀ u ∈ t :: ts, TokOk src u ∧ t.start ≤ u.start) ∧ (t :: ts).Pairwise (fun a b => a.stop ≤ b.start) := by
  refine ⟨fun u hu => ?_, List.pairwise_cons.2 ⟨fun u hu => (i1 u hu).2, i2⟩⟩
  rcases List.mem_cons.1 hu with rfl | hu
  · exact ⟨t0, Nat.le_refl _⟩
  · exact ⟨(i1 u hu).1, Nat.le_trans (Nat.le_of_lt t0.lt) (i1 u hu).2⟩

theorem TokOk.diag {src : List Char} {t : Token} (h : TokOk src t) (dk : DiagKind) : DiagOk src ⟨dk, t.start, t.stop⟩ :=
  ⟨h.bs, h.be, Nat.le_of_lt h.lt⟩

theorem LexRun.ok {src : List Char} {cs : List Char} {pos : Nat} {d : Int} {ts : List Token} {ds : List Diag}
    (h : LexRun cs pos d ts ds) (ha : At src pos cs) :
    ((∀ t ∈ ts, TokOk src t ∧ pos ≤ t.start) ∧ ts.Pairwise (fun a b => a.stop ≤ b.start)) ∧ ∀ x ∈ ds, DiagOk src x := by
  induction h with
  | done => simp
  | err hne hr _ ih =>
    obtain ⟨ha', htok⟩ := step_span hne hr ha
    have t0 := htok .error (fun e => by cases e)
    obtain ⟨⟨i1, i2⟩, i3⟩ := ih ha'.advance
    exact ⟨tokOk_cons t0 i1 i2, List.forall_mem_cons.2 ⟨t0.diag _, i3⟩⟩
  | @deep _ _ _ _ _ k hne hr _ =>
    obtain ⟨ha', htok⟩ := step_span hne hr ha
    exact ⟨by simp, List.forall_mem_append.2 ⟨strDiags_ok ha' k,
      List.forall_mem_singleton.2 ((htok .error (fun e => by cases e)).diag _)⟩⟩
  | @tok _ _ _ _ _ k _ _ hne hr _ _ ih =>
    obtain ⟨ha', htok⟩ := step_span hne hr ha
    obtain ⟨⟨i1, i2⟩, i3⟩ := ih ha'.advance
    exact ⟨tokOk_cons (htok k id) i1 i2, List.forall_mem_append.2 ⟨strDiags_ok ha' k, i3⟩⟩

theorem tokenize_ok (src : List Char) : LexOk src (tokenize src) := by
  obtain ⟨ts, ds, h, e⟩ := tokenize_run src
  obtain ⟨⟨h1, h2⟩, h3⟩ := h.ok (src := src) ⟨[], rfl, rfl⟩
  rw [e]
  exact ⟨fun t ht => (h1 t ht).1, h2, h3⟩

theorem LexRun.kinds {cs : List Char} {pos : Nat} {d : Int} {ts : List Token} {ds : List Diag}
    (h : LexRun cs pos d ts ds) : (∀ t ∈ ts, t.kind ≠ .eof) ∧ (ds = [] → ∀ t ∈ ts, t.kind ≠ .error) := by
  induction h with
  | done => simp
  | err _ _ _ ih => exact ⟨List.forall_mem_cons.2 ⟨by simp, ih.1⟩, fun e => by cases e⟩
  | deep => simp
  | tok hne hr _ _ ih =>
    have ok := lexOne_ok hne
    rw [hr] at ok
    exact ⟨List.forall_mem_cons.2 ⟨ok.noEof, ih.1⟩,
      fun e => List.forall_mem_cons.2 ⟨ok.noErr rfl, ih.2 (List.append_eq_nil_iff.1 e).2⟩⟩

theorem tokenize_kinds (src : List Char) :
    (∀ t ∈ (tokenize src).tokens, t.kind ≠ .eof) ∧
    ((tokenize src).diags = [] → ∀ t ∈ (tokenize src).tokens, t.kind ≠ .error) := by
  obtain ⟨ts, ds, h, e⟩ := tokenize_run src
  rw [e]; exact h.kinds

theorem LexRun.tiles {cs : List Char} {pos : Nat} {d : Int} {ts : List Token} {ds : List Diag}
    (h : LexRun cs pos d ts ds) (hd : ds = []) : TilesFrom pos ts cs := by
  induction h with
  | done => rfl
  | err => cases hd
  | deep => simp at hd
  | @tok _ text rest pos _ k _ _ hne hr _ _ ih =>
    obtain ⟨h1, h2⟩ := List.append_eq_nil_iff.1 hd
    have ok := lexOne_ok hne
    rw [hr] at ok
    refine ⟨text, rest, ok.split.symm, rfl, rfl, ok.valid rfl pos (fun e => ?_), ih h2⟩
    subst e
    exact h1

/-- 256 is `tokenize`'s nesting check: the loop is left at the first token that would open a 257th
bracket, whatever else was reported -/
theorem tokenize_depth (src : List Char) : depthOk ((tokenize src).tokens.map (·.kind)) = true := by
  obtain ⟨ts, ds, h, e⟩ := tokenize_run src
  rw [e]
  exact h.depth (by decide)

theorem tokenize_sound (src : List Char) (h : (tokenize src).diags = []) :
    TilesFrom 0 (tokenize src).tokens src ∧ depthOk ((tokenize src).tokens.map (·.kind)) = true := by
  obtain ⟨ts, ds, hr, e⟩ := tokenize_run src
  rw [e] at h ⊢
  exact ⟨hr.tiles h, e ▸ tokenize_depth src⟩

end ShapeVerif
