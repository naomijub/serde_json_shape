/-
`parse_cst` on the nodes the parser builds in clean mode: it computes `inferDoc` of the document the
tokens spell, whatever whitespace tokens sit between them.
-/
import ShapeVerif.Model.ParseCst
namespace ShapeVerif
open Shape

def liftS : Except InferErr Shape → Outcome Shape
  | .ok s => .ok s
  | .error e => .err (inferErrToPErr e)

theorem liftS_eq_ok {x : Except InferErr Shape} {s : Shape} : liftS x = .ok s ↔ x = .ok s := by
  cases x <;> simp [liftS]

theorem liftS_eq_err {x : Except InferErr Shape} {e : PErr} :
    liftS x = .err e ↔ ∃ ie, x = .error ie ∧ e = inferErrToPErr ie := by
  cases x <;> simp [liftS, eq_comm]

def liftL : Except InferErr (List Shape) → Outcome (List Shape)
  | .ok s => .ok s
  | .error e => .err (inferErrToPErr e)

def liftM : Except InferErr Members → Outcome Members
  | .ok s => .ok s
  | .error e => .err (inferErrToPErr e)

/-- the node evaluates to what `inferDoc` says about `d`, wherever it sits (`pe`). Extensional: nothing
about the subtree beyond what `parseRule` returns. -/
def Evals (src : List Char) (n : Node) (d : Doc) : Prop := ∀ pe, parseRule src pe n = liftS (inferDoc d)

def NoErrNodes (l : List Node) : Prop := ∀ n ∈ l, isErrorNode n = false

theorem noErr_nil : NoErrNodes [] := fun _ h => nomatch h

theorem noErr_append {a b : List Node} (ha : NoErrNodes a) (hb : NoErrNodes b) : NoErrNodes (a ++ b) :=
  List.forall_mem_append.2 ⟨ha, hb⟩

theorem noErr_cons {n : Node} {b : List Node} (hn : isErrorNode n = false) (hb : NoErrNodes b) :
    NoErrNodes (n :: b) :=
  List.forall_mem_cons.2 ⟨hn, hb⟩

theorem findSpan_none_of_noErr : ∀ (cs : List Node) (pe : Nat), NoErrNodes cs → findSpan isErrorNode pe cs = none
  | [], _, _ => rfl
  | n :: ns, pe, h => by
    simp only [findSpan, h n (by simp), Bool.false_eq_true, if_false]
    exact findSpan_none_of_noErr ns _ (fun m hm => h m (by simp [hm]))

theorem hasErrors_ok {src : List Char} {cs : List Node} (h : NoErrNodes cs) (pe : Nat) :
    hasErrors src pe cs = .ok () := by
  simp [hasErrors, findSpan_none_of_noErr cs pe h]

inductive ElemsRep (src : List Char) : List Node → List Doc → Prop
  | nil : ElemsRep src [] []
  | punct {n : Node} {ns : List Node} {ds : List Doc} : isArrayPunct n = true → ElemsRep src ns ds →
      ElemsRep src (n :: ns) ds
  | val {n : Node} {d : Doc} {ns : List Node} {ds : List Doc} : isArrayPunct n = false → Evals src n d →
      ElemsRep src ns ds → ElemsRep src (n :: ns) (d :: ds)

theorem ElemsRep.append {src : List Char} {a b : List Node} {x y : List Doc} (h1 : ElemsRep src a x)
    (h2 : ElemsRep src b y) : ElemsRep src (a ++ b) (x ++ y) := by
  induction h1 with
  | nil => simpa using h2
  | punct hp _ ih => exact .punct hp ih
  | val hp he _ ih => exact .val hp he ih

theorem parseElements_of_rep {src : List Char} {cs : List Node} {ds : List Doc} (h : ElemsRep src cs ds) :
    ∀ pe, parseElements src pe cs = liftL (inferDocList ds) := by
  induction h with
  | nil => intro pe; simp [parseElements, inferDocList, liftL]
  | punct hp _ ih =>
    intro pe
    unfold parseElements
    simp only [hp, if_true]
    exact ih _
  | @val n d ns ds hp he _ ih =>
    intro pe
    unfold parseElements
    simp only [hp, Bool.false_eq_true, if_false, he pe, ih, inferDocList]
    cases inferDoc d with
    | error e => simp [liftS, liftL]
    | ok s =>
      simp only [liftS]
      cases inferDocList ds <;> simp [liftL]

theorem evals_array {src : List Char} {cs : List Node} {xs : List Doc} (hne : NoErrNodes cs)
    (h : ElemsRep src cs xs) : Evals src (.rule .array cs) (.arr xs) := by
  intro pe
  unfold parseRule
  simp only [hasErrors_ok hne, parseElements_of_rep h, inferDoc]
  cases inferDocList xs with
  | error e => simp [liftL, liftS]
  | ok es =>
    simp only [liftL]
    cases classifyArray es <;> simp [liftS]

/-- the children of a `member` rule spell the member `(k, v)` -/
def MemberRep (src : List Char) (cs : List Node) (k : String) (v : Doc) : Prop :=
  ∀ pe content, parseMember src pe cs content =
    liftM (match inferDoc v with
      | .error e => .error e
      | .ok value => addMember content k value)

def isMemberNode : Node → Bool
  | .rule .member _ => true
  | _ => false

inductive MembersRep (src : List Char) : List Node → List (String × Doc) → Prop
  | nil : MembersRep src [] []
  | other {n : Node} {ns : List Node} {ms : List (String × Doc)} : isMemberNode n = false →
      MembersRep src ns ms → MembersRep src (n :: ns) ms
  | mem {cs : List Node} {k : String} {v : Doc} {ns : List Node} {ms : List (String × Doc)} :
      MemberRep src cs k v → MembersRep src ns ms → MembersRep src (.rule .member cs :: ns) ((k, v) :: ms)

theorem MembersRep.append {src : List Char} {a b : List Node} {x y : List (String × Doc)}
    (h1 : MembersRep src a x) (h2 : MembersRep src b y) : MembersRep src (a ++ b) (x ++ y) := by
  induction h1 with
  | nil => simpa using h2
  | other hp _ ih => exact .other hp ih
  | mem hm _ ih => exact .mem hm ih

theorem parseMembers_of_rep {src : List Char} {cs : List Node} {ms : List (String × Doc)}
    (h : MembersRep src cs ms) : ∀ pe content, parseMembers src pe cs content = liftM (inferDocMembers ms content) := by
  induction h with
  | nil => intro pe content; simp [parseMembers, inferDocMembers, liftM]
  | @other n ns ms hp _ ih =>
    intro pe content
    unfold parseMembers
    split
    next cs => simp [isMemberNode] at hp
    next => exact ih _ _
  | @mem cs k v ns ms hm _ ih =>
    intro pe content
    unfold parseMembers
    simp only [hm pe content, inferDocMembers]
    cases inferDoc v with
    | error e => simp [liftM]
    | ok value =>
      simp only
      cases addMember content k value with
      | error e => simp [liftM]
      | ok content' => simp only [liftM]; exact ih _ _

theorem evals_object {src : List Char} {cs : List Node} {ms : List (String × Doc)} (hne : NoErrNodes cs)
    (h : MembersRep src cs ms) : Evals src (.rule .object cs) (.obj ms) := by
  intro pe
  unfold parseRule
  simp only [hasErrors_ok hne, parseMembers_of_rep h, inferDoc]
  cases inferDocMembers ms [] <;> simp [liftM, liftS]

/-- a literal node evaluates as `parse_token` evaluates its one child -/
theorem evals_literal {src : List Char} {n : Node} {d : Doc} (hne : isErrorNode n = false)
    (h : parseToken n = liftS (inferDoc d)) : Evals src (.rule .literal [n]) d := by
  intro pe
  unfold parseRule
  simp only [hasErrors_ok (noErr_cons hne noErr_nil), h]

theorem findMemberValue_skip {src : List Char} : ∀ (mid : List Node) (vn : Node) (pe : Nat),
    (∀ n ∈ mid, isValueRule n = false) → isValueRule vn = true →
    ∃ pe', findMemberValue src pe (mid ++ [vn]) = some (parseRule src pe' vn)
  | [], vn, pe, _, hv => ⟨pe, by simp [findMemberValue, hv]⟩
  | m :: mid, vn, pe, hm, hv => by
    have h1 := hm m (by simp)
    obtain ⟨pe', h⟩ := findMemberValue_skip (src := src) mid vn (nodeEnd pe m) (fun n hn => hm n (by simp [hn])) hv
    exact ⟨pe', by simp [findMemberValue, h1, h]⟩

theorem member_rep {src : List Char} {a b : Nat} {mid : List Node} {vn : Node} {v : Doc} {txt : List Char}
    (hmid : ∀ n ∈ mid, isValueRule n = false) (hvn : isValueRule vn = true) (hev : Evals src vn v)
    (hne : NoErrNodes (.tok .string a b :: mid ++ [vn])) (hsl : sliceBytes src a b = some txt)
    (hlen : 2 ≤ txt.length) :
    MemberRep src (.tok .string a b :: mid ++ [vn]) (memberName txt) v := by
  intro pe content
  unfold parseMember
  have hk : findNode isStringTok pe (.tok .string a b :: mid ++ [vn]) = some (.tok .string a b, pe) := by
    simp [findNode, isStringTok]
  simp only [hk, nodeSpan, hsl]
  have : ¬ txt.length < 2 := Nat.not_lt.2 hlen
  simp only [this, if_false, hasErrors_ok hne]
  obtain ⟨pe', hf⟩ := findMemberValue_skip (src := src) (.tok .string a b :: mid) vn pe
    (by intro n hn; rcases List.mem_cons.1 hn with rfl | hn; · rfl
        · exact hmid n hn) hvn
  rw [hf]
  simp only [hev pe']
  cases inferDoc v with
  | error e => simp [liftS, liftM]
  | ok value =>
    simp only [liftS]
    cases addMember content (memberName txt) value <;> simp [liftM]

end ShapeVerif
