/-
The recovering parser in "clean mode": states in which no error has been reported yet. In such a
state `error` always pushes a diagnostic, so a run that ends with the diagnostics it started with has
never called it — every `expect!` succeeded and every branch taken was a grammatical one.
`expect_step` is the one way a clean-mode proof looks at an `expect!`.
Also here: `TokensOk`, `SkipItems` and what `takeSkips` does to them (`takeSkips_spec`); and `sig`, the
tokens the grammar sees — it is the parser's `isSkipTok` (Model/Parser.lean) that defines them, so
Lemmas/Spell.lean imports this file for `sig` alone.
-/
import ShapeVerif.Lemmas.ParseYield
namespace ShapeVerif

/-- the tokens the grammar sees -/
def sig (ts : List Token) : List Token := ts.filter (fun t => !isSkipTok t.kind)

theorem sig_cons_skip {t : Token} (h : isSkipTok t.kind = true) (l : List Token) : sig (t :: l) = sig l := by
  simp [sig, h]

theorem sig_cons_keep {t : Token} (h : isSkipTok t.kind = false) (l : List Token) : sig (t :: l) = t :: sig l := by
  simp [sig, h]

/-- kinds and non-emptiness only, no source text (unrelated to `TokOk`): what the lexer's tokens satisfy
when it raised no diagnostic (`tokensOk_tokenize`); the parser in clean mode needs no more of them -/
structure TokensOk (ts : List Token) : Prop where
  noErr : ∀ t ∈ ts, t.kind ≠ .error ∧ t.kind ≠ .eof
  pos : ∀ t ∈ ts, t.start < t.stop

theorem TokensOk.of_suffix {a b : List Token} (h : TokensOk (a ++ b)) : TokensOk b :=
  ⟨fun x hx => h.noErr x (by simp [hx]), fun x hx => h.pos x (by simp [hx])⟩

/-- a state in which the parser has reported nothing. `cur` is `Coh`; `head`: the next token is not a
skipped one; `nonEmpty`: `lastErrorSpan` starts at `(0, 0)` and `error` is silent on an equal span, so
every span must differ from it — this is why `src ≠ []` runs through AcceptSound. Not `Stable` (`error`
and `cooldown` leave it): used only along quiet runs. -/
structure CleanSt (s : PState) : Prop where
  cooldown : s.cooldown = false
  les : s.lastErrorSpan = (0, 0)
  cur : s.current = headKind s.toks
  head : ∀ t rest, s.toks = t :: rest → isSkipTok t.kind = false
  toksOk : TokensOk s.toks
  nonEmpty : s.maxOffset ≠ 0

theorem span_ne_zero {s : PState} (h : CleanSt s) : s.span ≠ (0, 0) := by
  unfold PState.span
  cases ht : s.toks with
  | nil =>
    simp only
    intro e
    simp only [Prod.mk.injEq] at e
    exact h.nonEmpty e.1
  | cons t ts =>
    simp only
    intro e
    have := h.toksOk.pos t (by simp [ht])
    simp only [Prod.mk.injEq] at e
    omega

theorem error_pushes {s : PState} (h : CleanSt s) :
    s.error.diags = ⟨.syntax, s.span.1, s.span.2⟩ :: s.diags := by
  unfold PState.error
  have h1 : s.cooldown = false := h.cooldown
  have h2 : (s.lastErrorSpan == s.span) = false := by
    rw [h.les]
    have := span_ne_zero h
    simp only [beq_eq_false_iff_ne, ne_eq]
    exact fun e => this e.symm
  simp [h1, h2]

theorem error_changes {s : PState} (h : CleanSt s) : s.error.diags ≠ s.diags := by
  rw [error_pushes h]
  exact List.cons_ne_self _ _

/-- what `advance` emits after the token, in clean mode: items flagged skipped that are whitespace or
newline tokens (an `Error` token would have come with a diagnostic) -/
def SkipItems (l : List Item) : Prop := ∀ i ∈ l, i.skip = true ∧ ∃ k a b, i.node = .tok k a b ∧ (k = .ws ∨ k = .nl)

theorem isSkip_ws_nl {ts : List Token} (h : TokensOk ts) {t : Token} (ht : t ∈ ts) (hs : isSkipTok t.kind = true) :
    t.kind = .ws ∨ t.kind = .nl := by
  have := (h.noErr t ht).1
  simp only [isSkipTok, Bool.or_eq_true, beq_iff_eq] at hs
  rcases hs with (hs | hs) | hs
  · exact absurd hs this
  · exact .inl hs
  · exact .inr hs

theorem takeSkips_spec : ∀ (ts : List Token), TokensOk ts →
    SkipItems (takeSkips ts).1 ∧ sig (takeSkips ts).2.1 = sig ts ∧
    (∀ t rest, (takeSkips ts).2.1 = t :: rest → isSkipTok t.kind = false) ∧
    TokensOk (takeSkips ts).2.1
  | [], _ =>
    ⟨(by intro i hi; simp [takeSkips] at hi), (by simp [takeSkips]), (by intro t rest h; simp [takeSkips] at h),
      (by simp only [takeSkips]; exact ⟨(by simp), (by simp)⟩)⟩
  | t :: ts, h => by
    unfold takeSkips
    split
    · rename_i hs
      obtain ⟨h1, h2, h3, h4⟩ := takeSkips_spec ts (h.of_suffix (a := [t]))
      refine ⟨?_, ?_, h3, h4⟩
      · intro i hi
        rcases List.mem_cons.1 hi with rfl | hi
        · exact ⟨rfl, t.kind, t.start, t.stop, rfl, isSkip_ws_nl h (by simp) hs⟩
        · exact h1 i hi
      · exact h2.trans (sig_cons_skip hs ts).symm
    · rename_i hs
      simp only [Bool.not_eq_true] at hs
      exact ⟨(by intro i hi; cases hi), rfl, (by intro t' rest e; cases e; exact hs), h⟩

theorem toks_nil_of_eof {s : PState} (h : CleanSt s) (he : s.current = .eof) : s.toks = [] := by
  cases ht : s.toks with
  | nil => rfl
  | cons t ts =>
    have := (h.toksOk.noErr t (by simp [ht])).2
    rw [h.cur, ht] at he
    exact absurd he this

theorem toks_of_sig {s : PState} (h : CleanSt s) {t : Token} {rest : List Token} (hs : sig s.toks = t :: rest) :
    ∃ ts, s.toks = t :: ts := by
  cases ht : s.toks with
  | nil => rw [ht] at hs; simp [sig] at hs
  | cons a ts =>
    rw [ht, sig_cons_keep (h.head a ts ht)] at hs
    exact ⟨ts, by rw [(List.cons.inj hs).1]⟩

theorem current_of_sig {s : PState} (h : CleanSt s) {t : Token} {rest : List Token} (hs : sig s.toks = t :: rest) :
    s.current = t.kind := by
  obtain ⟨ts, ht⟩ := toks_of_sig h hs
  rw [h.cur, ht]; rfl

theorem current_of_sig_nil {s : PState} (h : CleanSt s) (hs : sig s.toks = []) : s.current = .eof := by
  cases ht : s.toks with
  | nil => rw [h.cur, ht]; rfl
  | cons a ts =>
    rw [ht, sig_cons_keep (h.head a ts ht)] at hs
    cases hs

/-- a quiet `expect k` from a clean state: the next token was of kind `k`; it was emitted with the skipped
tokens behind it, and the state left is clean -/
structure TokStep (s : PState) (r : PState × List Item) (k : Tok) : Prop where
  clean : CleanSt r.1
  same : r.1.diags = s.diags
  tok : ∃ t ts sk, s.toks = t :: ts ∧ t.kind = k ∧ r.2 = ⟨.tok t.kind t.start t.stop, false⟩ :: sk ∧
    SkipItems sk ∧ sig s.toks = t :: sig r.1.toks
  less : r.1.toks.length < s.toks.length

theorem expect_step {s : PState} (h : CleanSt s) (k : Tok) (hk0 : k ≠ .eof)
    (hd : (s.expect k).1.diags = s.diags) : TokStep s (s.expect k) k := by
  unfold PState.expect at hd ⊢
  by_cases hk : (s.current == k) = true
  · rw [if_pos hk]
    have hcur := h.cur
    rw [beq_iff_eq.1 hk] at hcur
    cases ht : s.toks with
    | nil => exact absurd (hcur.trans (by rw [ht]; rfl)) hk0
    | cons t ts =>
      obtain ⟨h1, h2, h3, h4⟩ := takeSkips_spec ts ((ht ▸ h.toksOk).of_suffix (a := [t]))
      simp only [PState.advance, ht]
      exact ⟨⟨by simp, h.les, by simp, h3, h4, h.nonEmpty⟩, rfl,
        ⟨t, ts, _, ht, by rw [hcur, ht]; rfl, rfl, h1, by rw [ht, sig_cons_keep (h.head t ts ht), h2]⟩,
        by rw [ht]; exact Nat.lt_succ_of_le (takeSkips_len ts)⟩
  · rw [if_neg hk] at hd
    exact absurd hd (error_changes h)

end ShapeVerif
