/-
The parser model recurses on a fuel argument (`Model/Parser.lean`): at fuel 0 every rule function
returns `(s, [])`. A theorem about that model says something about the real parser — whose
`rule_*` functions recurse and loop without any counter — only if the cut-off is never reached.
This file proves that, for **every** token list (not only grammatical ones):

* `rule*O` are twins of the rule functions that return `none` when the fuel runs out and are
  otherwise identical (`twin_agrees`: whenever a twin answers, it answers what the model answers);
* `twin_total`: in every coherent parser state, `2·|remaining tokens| + 1` units of fuel are enough for
  `rule_value` — every recursive call and every iteration of the two recovery loops consumes a token
  first (`advance`, `advance_with_error`), or is guarded by a look-ahead that makes the callee consume
  one;
* `parse_never_exhausts_fuel`: `Parser::parse` as modelled (fuel `2·|tokens| + 4`) never reaches
  the cut-off: the twin answers, and answers the model's result. That the real parser is this
  recursion without the counter is the modelling assumption; under it its recursion depth + loop
  iterations are at most `2·|tokens| + 4`.
-/
import ShapeVerif.Lemmas.ParseYield
namespace ShapeVerif

mutual
def ruleValueO : Nat → PState → Option (PState × List Item)
  | 0, _ => none
  | fuel + 1, s =>
    if s.current == .lbrace then ruleObjectO fuel s
    else if s.current == .lbrak then ruleArrayO fuel s
    else if isLiteralStart s.current then some (ruleLiteral s)
    else some (s.error, [])
def ruleMemberO : Nat → PState → Option (PState × List Item)
  | 0, _ => none
  | fuel + 1, s =>
    let r1 := s.expect .string
    let r2 := r1.1.expect .colon
    match ruleValueO fuel r2.1 with
    | none => none
    | some r3 => some (r3.1, closeRule .member (r1.2 ++ r2.2 ++ r3.2))
def objectLoopO : Nat → PState → Option (PState × List Item)
  | 0, _ => none
  | fuel + 1, s =>
    if s.current == .comma then
      let r1 := s.expect .comma
      match ruleMemberO fuel r1.1 with
      | none => none
      | some r2 =>
        match objectLoopO fuel r2.1 with
        | none => none
        | some r3 => some (r3.1, r1.2 ++ r2.2 ++ r3.2)
    else if s.current == .rbrace || s.current == .eof || s.current == .rbrak then some (s, [])
    else
      let r1 := s.advanceWithError
      match objectLoopO fuel r1.1 with
      | none => none
      | some r2 => some (r2.1, r1.2 ++ r2.2)
def ruleObjectO : Nat → PState → Option (PState × List Item)
  | 0, _ => none
  | fuel + 1, s =>
    let r1 := s.expect .lbrace
    let r2 : Option (PState × List Item) :=
      if r1.1.current == .string then
        match ruleMemberO fuel r1.1 with
        | none => none
        | some m =>
          match objectLoopO fuel m.1 with
          | none => none
          | some l => some (l.1, m.2 ++ l.2)
      else if r1.1.current == .rbrace then some (r1.1, [])
      else some (r1.1.error, [])
    match r2 with
    | none => none
    | some r2 =>
      let r3 := r2.1.expect .rbrace
      some (r3.1, closeRule .object (r1.2 ++ r2.2 ++ r3.2))
def arrayLoopO : Nat → PState → Option (PState × List Item)
  | 0, _ => none
  | fuel + 1, s =>
    if s.current == .comma then
      let r1 := s.expect .comma
      match ruleValueO fuel r1.1 with
      | none => none
      | some r2 =>
        match arrayLoopO fuel r2.1 with
        | none => none
        | some r3 => some (r3.1, r1.2 ++ r2.2 ++ r3.2)
    else if s.current == .rbrak || s.current == .eof || s.current == .rbrace then some (s, [])
    else
      let r1 := s.advanceWithError
      match arrayLoopO fuel r1.1 with
      | none => none
      | some r2 => some (r2.1, r1.2 ++ r2.2)
def ruleArrayO : Nat → PState → Option (PState × List Item)
  | 0, _ => none
  | fuel + 1, s =>
    let r1 := s.expect .lbrak
    let r2 : Option (PState × List Item) :=
      if isValueStart r1.1.current then
        match ruleValueO fuel r1.1 with
        | none => none
        | some v =>
          match arrayLoopO fuel v.1 with
          | none => none
          | some l => some (l.1, v.2 ++ l.2)
      else if r1.1.current == .rbrak then some (r1.1, [])
      else some (r1.1.error, [])
    match r2 with
    | none => none
    | some r2 =>
      let r3 := r2.1.expect .rbrak
      some (r3.1, closeRule .array (r1.2 ++ r2.2 ++ r3.2))
end

def Agrees (fO : PState → Option (PState × List Item)) (f : PState → PState × List Item) : Prop :=
  ∀ s, fO s = none ∨ fO s = some (f s)

theorem Agrees.some {fO : PState → Option (PState × List Item)} {f : PState → PState × List Item}
    (h : Agrees fO f) {s : PState} (hs : (fO s).isSome) : fO s = some (f s) := by
  rcases h s with e | e
  · rw [e] at hs
    cases hs
  · exact e

theorem twin_agrees (fuel : Nat) :
    Agrees (ruleValueO fuel) (ruleValue fuel) ∧ Agrees (ruleMemberO fuel) (ruleMember fuel) ∧
    Agrees (objectLoopO fuel) (objectLoop fuel) ∧ Agrees (ruleObjectO fuel) (ruleObject fuel) ∧
    Agrees (arrayLoopO fuel) (arrayLoop fuel) ∧ Agrees (ruleArrayO fuel) (ruleArray fuel) := by
  induction fuel with
  | zero => exact ⟨fun _ => .inl rfl, fun _ => .inl rfl, fun _ => .inl rfl, fun _ => .inl rfl, fun _ => .inl rfl,
      fun _ => .inl rfl⟩
  | succ fuel ih =>
    obtain ⟨ihV, ihM, ihOL, ihO, ihAL, ihA⟩ := ih
    refine ⟨?_, ?_, ?_, ?_, ?_, ?_⟩
    · intro s
      simp only [ruleValueO, ruleValue]
      by_cases hO : (s.current == .lbrace) = true
      · simp only [if_pos hO]
        exact ihO s
      simp only [if_neg hO]
      by_cases hA : (s.current == .lbrak) = true
      · simp only [if_pos hA]
        exact ihA s
      simp only [if_neg hA]
      split <;> right <;> rfl
    · intro s
      simp only [ruleMemberO, ruleMember]
      rcases ihV ((s.expect .string).1.expect .colon).1 with h | h <;> rw [h]
      · left; rfl
      · right; rfl
    · intro s
      simp only [objectLoopO, objectLoop]
      by_cases hk : (s.current == .comma) = true
      · simp only [if_pos hk]
        rcases ihM (s.expect .comma).1 with h | h <;> rw [h]
        · left; rfl
        · simp only []
          rcases ihOL (ruleMember fuel (s.expect .comma).1).1 with h2 | h2 <;> rw [h2]
          · left; rfl
          · right; rfl
      simp only [if_neg hk]
      split
      · right; rfl
      · rcases ihOL s.advanceWithError.1 with h | h <;> rw [h]
        · left; rfl
        · right; rfl
    · intro s
      simp only [ruleObjectO, ruleObject]
      by_cases hs : ((s.expect .lbrace).1.current == .string) = true
      · simp only [if_pos hs]
        rcases ihM (s.expect .lbrace).1 with h | h <;> rw [h]
        · left; rfl
        · simp only []
          rcases ihOL (ruleMember fuel (s.expect .lbrace).1).1 with h2 | h2 <;> rw [h2]
          · left; rfl
          · right; rfl
      · simp only [if_neg hs]
        cases ((s.expect .lbrace).1.current == .rbrace) <;> exact .inr rfl
    · intro s
      simp only [arrayLoopO, arrayLoop]
      by_cases hk : (s.current == .comma) = true
      · simp only [if_pos hk]
        rcases ihV (s.expect .comma).1 with h | h <;> rw [h]
        · left; rfl
        · simp only []
          rcases ihAL (ruleValue fuel (s.expect .comma).1).1 with h2 | h2 <;> rw [h2]
          · left; rfl
          · right; rfl
      simp only [if_neg hk]
      split
      · right; rfl
      · rcases ihAL s.advanceWithError.1 with h | h <;> rw [h]
        · left; rfl
        · right; rfl
    · intro s
      simp only [ruleArrayO, ruleArray]
      by_cases hs : isValueStart (s.expect .lbrak).1.current = true
      · simp only [if_pos hs]
        rcases ihV (s.expect .lbrak).1 with h | h <;> rw [h]
        · left; rfl
        · simp only []
          rcases ihAL (ruleValue fuel (s.expect .lbrak).1).1 with h2 | h2 <;> rw [h2]
          · left; rfl
          · right; rfl
      · simp only [if_neg hs]
        cases ((s.expect .lbrak).1.current == .rbrak) <;> exact .inr rfl

/-- Three fuel shapes: `2L + 1` for a function that may be entered on any token, `2L + 2` for `ruleMember`
entered so, and `2L` under a look-ahead guard — a guarded callee consumes its first token before it
recurses, which pays for the two units (`ruleMember` is entered both ways: from the loop, and from
`ruleObject` after the look-ahead). -/
theorem twin_total (fuel : Nat) :
    (∀ s, Coh s → 2 * L s + 1 ≤ fuel → (ruleValueO fuel s).isSome) ∧
    (∀ s, Coh s → 2 * L s + 2 ≤ fuel → (ruleMemberO fuel s).isSome) ∧
    (∀ s, Coh s → (s.current == .string) = true → 2 * L s ≤ fuel → (ruleMemberO fuel s).isSome) ∧
    (∀ s, Coh s → 2 * L s + 1 ≤ fuel → (objectLoopO fuel s).isSome) ∧
    (∀ s, Coh s → (s.current == .lbrace) = true → 2 * L s ≤ fuel → (ruleObjectO fuel s).isSome) ∧
    (∀ s, Coh s → 2 * L s + 1 ≤ fuel → (arrayLoopO fuel s).isSome) ∧
    (∀ s, Coh s → (s.current == .lbrak) = true → 2 * L s ≤ fuel → (ruleArrayO fuel s).isSome) := by
  induction fuel with
  | zero =>
    refine ⟨?_, ?_, ?_, ?_, ?_, ?_, ?_⟩
    · intro s _ h; exact absurd h (Nat.not_succ_le_zero _)
    · intro s _ h; exact absurd h (Nat.not_succ_le_zero _)
    · intro s hc hk h
      have := expect_consumes s hc _ hk (by decide)
      omega
    · intro s _ h; exact absurd h (Nat.not_succ_le_zero _)
    · intro s hc hk h
      have := expect_consumes s hc _ hk (by decide)
      omega
    · intro s _ h; exact absurd h (Nat.not_succ_le_zero _)
    · intro s hc hk h
      have := expect_consumes s hc _ hk (by decide)
      omega
  | succ fuel ih =>
    obtain ⟨ihV, ihM, ihMs, ihOL, ihO, ihAL, ihA⟩ := ih
    obtain ⟨agV, agM, agOL, _, agAL, _⟩ := twin_agrees fuel
    have kV := (coh_stable.rules fuel).1
    have kM := (coh_stable.rules fuel).2.1
    have yV := (rules_yield fuel).1
    have yM := (rules_yield fuel).2.1
    refine ⟨?_, ?_, ?_, ?_, ?_, ?_, ?_⟩
    · intro s hc h
      simp only [ruleValueO]
      by_cases hO : (s.current == .lbrace) = true
      · simp only [if_pos hO]
        exact ihO s hc hO (Nat.le_of_succ_le_succ h)
      simp only [if_neg hO]
      by_cases hA : (s.current == .lbrak) = true
      · simp only [if_pos hA]
        exact ihA s hc hA (Nat.le_of_succ_le_succ h)
      simp only [if_neg hA]
      split <;> rfl
    · intro s hc h
      simp only [ruleMemberO]
      have c1 := coh_stable.expect .string s hc
      have c2 := coh_stable.expect .colon _ c1
      have l1 := expect_len s .string
      have l2 := expect_len (s.expect .string).1 .colon
      rw [agV.some (ihV _ c2 (by omega))]
      rfl
    · intro s hc hk h
      simp only [ruleMemberO]
      have c1 := coh_stable.expect .string s hc
      have c2 := coh_stable.expect .colon _ c1
      have l1 := expect_consumes s hc .string hk (by decide)
      have l2 := expect_len (s.expect .string).1 .colon
      rw [agV.some (ihV _ c2 (fuel_call_succ (i := 0) h (Nat.lt_of_le_of_lt l2 l1)))]
      rfl
    · intro s hc h
      simp only [objectLoopO]
      split
      · rename_i hk
        have c1 := coh_stable.expect .comma s hc
        have l1 := expect_consumes s hc .comma hk (by decide)
        rw [agM.some (ihM _ c1 (fuel_call_succ h l1))]
        simp only []
        have c2 := kM _ c1
        have l2 := yields_len yM (s.expect .comma).1
        rw [agOL.some (ihOL _ c2 (fuel_call h (Nat.lt_of_le_of_lt l2 l1)))]
        rfl
      split
      · rfl
      · rename_i h1 h2
        have hne : s.current ≠ .eof := by
          intro e; simp [e] at h2
        have c1 := coh_stable.advanceWithError s hc
        have l1 := advanceWithError_consumes s hc hne
        rw [agOL.some (ihOL _ c1 (fuel_call h l1))]
        rfl
    · intro s hc hk h
      simp only [ruleObjectO]
      have c1 := coh_stable.expect .lbrace s hc
      have l1 := expect_consumes s hc .lbrace hk (by decide)
      by_cases hs : ((s.expect .lbrace).1.current == .string) = true
      · simp only [if_pos hs]
        rw [agM.some (ihMs _ c1 hs (fuel_call (i := 0) h l1))]
        simp only []
        have c2 := kM _ c1
        have l2 := yields_len yM (s.expect .lbrace).1
        rw [agOL.some (ihOL _ c2 (fuel_call_succ (i := 0) h (Nat.lt_of_le_of_lt l2 l1)))]
        rfl
      · simp only [if_neg hs]
        cases ((s.expect .lbrace).1.current == .rbrace) <;> rfl
    · intro s hc h
      simp only [arrayLoopO]
      split
      · rename_i hk
        have c1 := coh_stable.expect .comma s hc
        have l1 := expect_consumes s hc .comma hk (by decide)
        rw [agV.some (ihV _ c1 (fuel_call h l1))]
        simp only []
        have c2 := kV _ c1
        have l2 := yields_len yV (s.expect .comma).1
        rw [agAL.some (ihAL _ c2 (fuel_call h (Nat.lt_of_le_of_lt l2 l1)))]
        rfl
      split
      · rfl
      · rename_i h1 h2
        have hne : s.current ≠ .eof := by
          intro e; simp [e] at h2
        have c1 := coh_stable.advanceWithError s hc
        have l1 := advanceWithError_consumes s hc hne
        rw [agAL.some (ihAL _ c1 (fuel_call h l1))]
        rfl
    · intro s hc hk h
      simp only [ruleArrayO]
      have c1 := coh_stable.expect .lbrak s hc
      have l1 := expect_consumes s hc .lbrak hk (by decide)
      by_cases hs : isValueStart (s.expect .lbrak).1.current = true
      · simp only [if_pos hs]
        rw [agV.some (ihV _ c1 (fuel_call_succ (i := 0) h l1))]
        simp only []
        have c2 := kV _ c1
        have l2 := yields_len yV (s.expect .lbrak).1
        rw [agAL.some (ihAL _ c2 (fuel_call_succ (i := 0) h (Nat.lt_of_le_of_lt l2 l1)))]
        rfl
      · simp only [if_neg hs]
        cases ((s.expect .lbrak).1.current == .rbrak) <;> rfl

theorem parse_never_exhausts_fuel (cs : List Char) :
    let lx := tokenize cs
    ruleValueO (2 * lx.tokens.length + 4) (initState lx (utf8Len cs)) =
      some (ruleValue (2 * lx.tokens.length + 4) (initState lx (utf8Len cs))) := by
  intro lx
  have hl := initState_len lx (utf8Len cs)
  exact (twin_agrees _).1.some ((twin_total _).1 _ (initState_coh _ _) (by omega))

end ShapeVerif
