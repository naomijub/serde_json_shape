/-
Work of the recovering parser: the number of rule-function entries plus iterations of the two recovery
loops is at most `4·|tokens| + 2`, for **every** token list (grammatical or not).

`rule*T` count one tick per entry of `rule_value` / `rule_member` / `rule_object` / `rule_array` and per
iteration of the `loop`s in `rule_object` / `rule_array` (`objectLoop`, `arrayLoop` in the model),
threading the same states as the model functions. The bound is proved with the potential
`ticks + 4·(tokens left) ≤ 4·(tokens before) + c`: every tick is paid for by a consumed token or is the
single entry tick of a call. The twins count the model; the tie to the generated parser is the CST
comparison (the real tree is the model's tree on every text of every run), not a hook counter.
-/
import ShapeVerif.Lemmas.ParseYield
namespace ShapeVerif

mutual
def ruleValueT : Nat → PState → Nat
  | 0, _ => 0
  | fuel + 1, s =>
    1 + (if s.current == .lbrace then ruleObjectT fuel s
         else if s.current == .lbrak then ruleArrayT fuel s
         else 0)
def ruleMemberT : Nat → PState → Nat
  | 0, _ => 0
  | fuel + 1, s => 1 + ruleValueT fuel ((s.expect .string).1.expect .colon).1
def objectLoopT : Nat → PState → Nat
  | 0, _ => 0
  | fuel + 1, s =>
    1 + (if s.current == .comma then
           ruleMemberT fuel (s.expect .comma).1 + objectLoopT fuel (ruleMember fuel (s.expect .comma).1).1
         else if s.current == .rbrace || s.current == .eof || s.current == .rbrak then 0
         else objectLoopT fuel s.advanceWithError.1)
def ruleObjectT : Nat → PState → Nat
  | 0, _ => 0
  | fuel + 1, s =>
    1 + (if (s.expect .lbrace).1.current == .string then
           ruleMemberT fuel (s.expect .lbrace).1 + objectLoopT fuel (ruleMember fuel (s.expect .lbrace).1).1
         else 0)
def arrayLoopT : Nat → PState → Nat
  | 0, _ => 0
  | fuel + 1, s =>
    1 + (if s.current == .comma then
           ruleValueT fuel (s.expect .comma).1 + arrayLoopT fuel (ruleValue fuel (s.expect .comma).1).1
         else if s.current == .rbrak || s.current == .eof || s.current == .rbrace then 0
         else arrayLoopT fuel s.advanceWithError.1)
def ruleArrayT : Nat → PState → Nat
  | 0, _ => 0
  | fuel + 1, s =>
    1 + (if isValueStart (s.expect .lbrak).1.current then
           ruleValueT fuel (s.expect .lbrak).1 + arrayLoopT fuel (ruleValue fuel (s.expect .lbrak).1).1
         else 0)
end

/-- the potential: `t` ticks on the way from `s` to `s'`, plus four for every token left, against four for every
token there was and `c` more -/
def Pays (s s' : PState) (t c : Nat) : Prop := t + 4 * L s' ≤ 4 * L s + c

def Paid (f : Step) (t : PState → Nat) (c : Nat) : Prop := ∀ s, Coh s → Pays s (f s).1 (t s) c

namespace Pays
variable {s s1 s2 s' : PState} {t t' c c' : Nat}

/-- a step that consumes nothing costs nothing -/
theorem free (l : L s' ≤ L s) : Pays s s' 0 0 := by unfold Pays; omega

theorem seq (h1 : Pays s s1 t c) (h2 : Pays s1 s2 t' c') : Pays s s2 (t + t') (c + c') := by unfold Pays at *; omega

theorem mono (h : Pays s s' t c) (hc : c ≤ c') : Pays s s' t c' := Nat.le_trans h (Nat.add_le_add_left hc _)

/-- an entry tick, before anything is consumed, costs one -/
theorem tick (l : L s1 ≤ L s) (h : Pays s1 s' t c) : Pays s s' (1 + t) (c + 1) := by unfold Pays at *; omega

/-- a consumed token pays for the entry tick and three more -/
theorem token (l : L s1 + 1 ≤ L s) (h : Pays s1 s' t (c + 3)) : Pays s s' (1 + t) c := by unfold Pays at *; omega

end Pays

/-- a round of the loop is paid for by the token it consumes (the comma, or the token it skips), or is
the last -/
theorem work_loop {stop : Tok → Bool} {item again : Step} {itemT againT loopT : PState → Nat}
    (hstop : ∀ k, stop k = false → k ≠ .eof) (kI : Keeps Coh item)
    (eT : ∀ s, loopT s = 1 + (if s.current == .comma then
        itemT (s.expect .comma).1 + againT (item (s.expect .comma).1).1
      else if stop s.current then 0 else againT s.advanceWithError.1))
    (hi : Paid item itemT 3) (ha : Paid again againT 1) : Paid (sepLoop stop item again) loopT 1 := by
  intro s hc
  rw [eT]
  unfold sepLoop
  split
  · rename_i hk
    have c1 := coh_stable.expect .comma s hc
    exact .token (expect_consumes s hc .comma hk (by decide)) ((hi _ c1).seq (ha _ (kI _ c1)))
  split
  · exact .tick (Nat.le_refl _) (.free (Nat.le_refl _))
  · rename_i h2
    exact .token (advanceWithError_consumes s hc (hstop _ (by simpa using h2)))
      ((ha _ (coh_stable.advanceWithError s hc)).mono (by decide))

/-- the opening bracket pays for the entry, for the item's entry and for the loop's last round -/
theorem work_bracket (r : Rule) {op cl : Tok} {first : Tok → Bool} {item loop : Step}
    {itemT loopT ruleT : PState → Nat} (hop : op ≠ .eof) (kI : Keeps Coh item)
    (eT : ∀ s, ruleT s = 1 + (if first (s.expect op).1.current then
        itemT (s.expect op).1 + loopT (item (s.expect op).1).1 else 0))
    (hi : Paid item itemT 3) (hl : Paid loop loopT 1) (s : PState) (hc : Coh s) (hk : (s.current == op) = true) :
    Pays s (bracket r op cl first item loop s).1 (ruleT s) 1 := by
  rw [eT]
  have c1 := coh_stable.expect op s hc
  have l1 := expect_consumes s hc op hk hop
  unfold bracket optList Step.close Step.seq
  dsimp only
  split
  · exact .token l1 (((hi _ c1).seq (hl _ (kI _ c1))).seq (.free (expect_len _ cl)))
  split
  · exact .token l1 ((Pays.free (expect_len _ cl)).mono (Nat.zero_le _))
  · exact .token l1 ((Pays.free (Nat.le_trans (expect_len _ cl) (Nat.le_of_eq (L_error _)))).mono (Nat.zero_le _))

theorem parser_work (fuel : Nat) :
    (∀ s, Coh s → ruleValueT fuel s + 4 * L (ruleValue fuel s).1 ≤ 4 * L s + 2) ∧
    (∀ s, Coh s → ruleMemberT fuel s + 4 * L (ruleMember fuel s).1 ≤ 4 * L s + 3) ∧
    (∀ s, Coh s → objectLoopT fuel s + 4 * L (objectLoop fuel s).1 ≤ 4 * L s + 1) ∧
    (∀ s, Coh s → (s.current == .lbrace) = true → ruleObjectT fuel s + 4 * L (ruleObject fuel s).1 ≤ 4 * L s + 1) ∧
    (∀ s, Coh s → arrayLoopT fuel s + 4 * L (arrayLoop fuel s).1 ≤ 4 * L s + 1) ∧
    (∀ s, Coh s → (s.current == .lbrak) = true → ruleArrayT fuel s + 4 * L (ruleArray fuel s).1 ≤ 4 * L s + 1) := by
  induction fuel with
  | zero =>
    refine ⟨?_, ?_, ?_, ?_, ?_, ?_⟩ <;> intros <;>
      exact Nat.le_trans (Nat.le_of_eq (Nat.zero_add _)) (Nat.le_add_right _ _)
  | succ fuel ih =>
    obtain ⟨ihV, ihM, ihOL, ihO, ihAL, ihA⟩ := ih
    obtain ⟨kV, kM, -⟩ := coh_stable.rules fuel
    have ihV3 : Paid (ruleValue fuel) (ruleValueT fuel) 3 := fun s hc => Nat.le_succ_of_le (ihV s hc)
    have stop_ne : ∀ k, (stopO k = false → k ≠ .eof) ∧ (stopA k = false → k ≠ .eof) := by
      intro k; cases k <;> decide
    refine ⟨?_, ?_, ?_, ?_, ?_, ?_⟩
    · intro s hc
      simp only [ruleValueT, ruleValue]
      by_cases hO : (s.current == .lbrace) = true
      · simp only [if_pos hO]
        exact Pays.tick (Nat.le_refl _) (ihO s hc hO)
      simp only [if_neg hO]
      by_cases hA : (s.current == .lbrak) = true
      · simp only [if_pos hA]
        exact Pays.tick (Nat.le_refl _) (ihA s hc hA)
      simp only [if_neg hA]
      split
      · exact (Pays.tick (Nat.le_refl _) (.free (yields_len yields_trace.ruleLiteral s))).mono (by decide)
      · exact (Pays.tick (Nat.le_refl _) (.free (Nat.le_of_eq (L_error s)))).mono (by decide)
    · intro s hc
      simp only [ruleMemberT, ruleMember]
      have c2 := coh_stable.expect .colon _ (coh_stable.expect .string s hc)
      exact Pays.tick (Nat.le_trans (expect_len _ .colon) (expect_len s .string)) (ihV _ c2)
    · rw [objectLoop_succ]
      exact work_loop (fun k => (stop_ne k).1) kM (fun s => by rw [objectLoopT]; rfl) ihM ihOL
    · rw [ruleObject_succ]
      exact work_bracket _ (by decide) kM (fun s => by rw [ruleObjectT]) ihM ihOL
    · rw [arrayLoop_succ]
      exact work_loop (fun k => (stop_ne k).2) kV (fun s => by rw [arrayLoopT]; rfl) ihV3 ihAL
    · rw [ruleArray_succ]
      exact work_bracket _ (by decide) kV (fun s => by rw [ruleArrayT]) ihV3 ihAL

/-- the tick twin counts at most `4·|tokens| + 2` rule entries and loop iterations on any text; they are
all there are because the cut-off, where the twin counts 0, is never reached (`parse_never_exhausts_fuel`) -/
theorem parse_work_linear (cs : List Char) :
    ruleValueT (2 * (tokenize cs).tokens.length + 4) (initState (tokenize cs) (utf8Len cs)) ≤
      4 * (tokenize cs).tokens.length + 2 := by
  have h := (parser_work (2 * (tokenize cs).tokens.length + 4)).1 (initState (tokenize cs) (utf8Len cs)) (initState_coh _ _)
  have hl := initState_len (tokenize cs) (utf8Len cs)
  omega

end ShapeVerif
