/-
The constructors of `Shape` in the classes the operations treat alike: atoms (`Null` and the scalars
`Bool`, `Number`, `String`) have no parts and differ from a shape of the same constructor only in the
flag; containers (`Array`, `Tuple`, `Object`) have parts; `OneOf` stands apart. Induction with one
case for all atoms, what `withOptional` leaves alone, and the hereditary predicates `wf`, `plain` and
`tupleFlat` read element by element.
-/
import ShapeVerif.Lemmas.Induction
namespace ShapeVerif

/-- bool / number / string / array / object / tuple: the kinds whose only route to `null` is the flag -/
def simple (s : Shape) : Bool := !s.isNull && !s.isOneOf

namespace Shape

def isAtom : Shape → Bool
  | array .. | object .. | oneOf .. | tuple .. => false
  | _ => true

def isScalar (s : Shape) : Bool := s.isAtom && !s.isNull

def isContainer : Shape → Bool
  | array .. | tuple .. | object .. => true
  | _ => false

theorem indAtom {motive : Shape → Prop} (atom : ∀ s, s.isAtom = true → motive s)
    (array : ∀ t o, motive t → motive (.array t o))
    (object : ∀ c o, (∀ kv ∈ c, motive kv.2) → motive (.object c o))
    (oneOf : ∀ vs o, (∀ v ∈ vs, motive v) → motive (.oneOf vs o))
    (tuple : ∀ es o, (∀ e ∈ es, motive e) → motive (.tuple es o)) : ∀ s, motive s :=
  Shape.ind (atom _ rfl) (fun _ => atom _ rfl) (fun _ => atom _ rfl) (fun _ => atom _ rfl)
    array object oneOf tuple

/-- the case split for the left operand of `isSubset`; `indAtom` is the induction for the right one, on which
`isSubset` recurses -/
theorem classes (s : Shape) :
    s = .null ∨ s.isScalar = true ∨ s.isContainer = true ∨ ∃ vs o, s = .oneOf vs o := by
  cases s <;> simp [isScalar, isAtom, isNull, isContainer]

theorem isNull_iff {s : Shape} : s.isNull = true ↔ s = .null := by
  cases s <;> simp [isNull]

theorem simple_not_oneOf {s : Shape} (h : simple s = true) : s.isOneOf = false := by
  cases s with
  | oneOf => cases h
  | _ => rfl

theorem simple_of_isContainer {s : Shape} (h : s.isContainer = true) : simple s = true := by
  cases s with
  | array | tuple | object => rfl
  | _ => cases h

theorem isAtom_of_isScalar {s : Shape} (h : s.isScalar = true) : s.isAtom = true :=
  (Bool.and_eq_true_iff.1 h).1

theorem isScalar_not_null {s : Shape} (h : s.isScalar = true) : s.isNull = false := by
  cases s with
  | null => cases h
  | _ => rfl

theorem isScalar_not_oneOf {s : Shape} (h : s.isScalar = true) : s.isOneOf = false := by
  cases s with
  | oneOf => cases h
  | _ => rfl

theorem isAtom_eq_tag (s : Shape) : s.isAtom = decide (s.tag < 4) := by
  cases s <;> rfl

theorem atom_eq_withOptional {a b : Shape} (ha : a.isAtom = true) (h : b.tag = a.tag) :
    b = withOptional b.isOptional a := by
  cases a <;> cases ha <;> cases b <;> cases h <;> rfl

theorem withOptional_self (s : Shape) : withOptional s.isOptional s = s := by
  cases s <;> rfl

theorem withOptional_withOptional (p q : Bool) (s : Shape) :
    withOptional p (withOptional q s) = withOptional p s := by
  cases s <;> rfl

theorem isOptional_withOptional (q : Bool) (s : Shape) : (withOptional q s).isOptional = (q || s.isNull) := by
  cases s <;> simp [withOptional, isOptional, isNull]

theorem asOptional_isOptional (s : Shape) : s.asOptional.isOptional = true := by
  cases s <;> rfl

theorem tag_withOptional (q : Bool) (s : Shape) : (withOptional q s).tag = s.tag := by
  cases s <;> rfl

theorem isAtom_withOptional (q : Bool) (s : Shape) : (withOptional q s).isAtom = s.isAtom := by
  cases s <;> rfl

theorem isContainer_withOptional (q : Bool) (s : Shape) : (withOptional q s).isContainer = s.isContainer := by
  cases s <;> rfl

theorem isOneOf_withOptional (q : Bool) (s : Shape) : (withOptional q s).isOneOf = s.isOneOf := by
  cases s <;> rfl

end Shape

open Shape

theorem isObject_cases {s : Shape} (h : s.isObject = true) : ∃ c o, s = .object c o := by
  cases s with
  | object c o => exact ⟨c, o, rfl⟩
  | _ => cases h

theorem wf_withOptional (q : Bool) (s : Shape) : (withOptional q s).wf = s.wf := by
  cases s <;> rfl

theorem wf_asOptional {s : Shape} (h : s.wf = true) : s.asOptional.wf = true :=
  (wf_withOptional true s).trans h

theorem wf_asNonOptional {s : Shape} (h : s.wf = true) : s.asNonOptional.wf = true :=
  (wf_withOptional false s).trans h

theorem wf_oneOf_iff {vs : List Shape} {o : Bool} :
    (Shape.oneOf vs o).wf = true ↔ sortedSet vs = true ∧ wfList vs = true := by
  simp [Shape.wf]

theorem plain_withOptional (q : Bool) (s : Shape) : (withOptional q s).plain = s.plain := by
  cases s <;> rfl

theorem tupleFlat_withOptional (q : Bool) (s : Shape) : (withOptional q s).tupleFlat = s.tupleFlat := by
  cases s <;> rfl

theorem tupleFlat_asOptional {s : Shape} (h : s.tupleFlat = true) : s.asOptional.tupleFlat = true :=
  (tupleFlat_withOptional true s).trans h

theorem tupleFlat_asNonOptional {s : Shape} (h : s.tupleFlat = true) : s.asNonOptional.tupleFlat = true :=
  (tupleFlat_withOptional false s).trans h

theorem wfList_iff {l : List Shape} : wfList l = true ↔ ∀ s ∈ l, s.wf = true := by
  rw [all_of_rec (f := wfList) rfl (fun _ _ => rfl), List.all_eq_true]

theorem wfMembers_iff {l : Members} : wfMembers l = true ↔ ∀ kv ∈ l, kv.2.wf = true := by
  rw [all_of_rec (f := wfMembers) (p := (·.2.wf)) rfl (fun _ _ => rfl), List.all_eq_true]

theorem wf_object_iff {c : Members} {o : Bool} :
    (Shape.object c o).wf = true ↔ sortedKeys c = true ∧ ∀ kv ∈ c, kv.2.wf = true := by
  rw [Shape.wf, Bool.and_eq_true, wfMembers_iff]

theorem wf_tuple_iff {es : List Shape} {o : Bool} : (Shape.tuple es o).wf = true ↔ ∀ e ∈ es, e.wf = true := by
  rw [Shape.wf, wfList_iff]

theorem plainList_iff {l : List Shape} : plainList l = true ↔ ∀ s ∈ l, s.plain = true := by
  rw [all_of_rec (f := plainList) rfl (fun _ _ => rfl), List.all_eq_true]

theorem plainMembers_iff {l : Members} : plainMembers l = true ↔ ∀ kv ∈ l, kv.2.plain = true := by
  rw [all_of_rec (f := plainMembers) (p := (·.2.plain)) rfl (fun _ _ => rfl), List.all_eq_true]

theorem plain_not_oneOf {s : Shape} (h : s.plain = true) : s.isOneOf = false := by
  cases s with
  | oneOf => cases h
  | _ => rfl

theorem tupleFlatList_iff {l : List Shape} : tupleFlatList l = true ↔ ∀ s ∈ l, s.tupleFlat = true := by
  rw [all_of_rec (f := tupleFlatList) rfl (fun _ _ => rfl), List.all_eq_true]

theorem tupleFlatMembers_iff {l : Members} : tupleFlatMembers l = true ↔ ∀ kv ∈ l, kv.2.tupleFlat = true := by
  rw [all_of_rec (f := tupleFlatMembers) (p := (·.2.tupleFlat)) rfl (fun _ _ => rfl), List.all_eq_true]

theorem tupleFlat_oneOf_iff {vs : List Shape} {o : Bool} :
    (Shape.oneOf vs o).tupleFlat = true ↔ ∀ v ∈ vs, v.tupleFlat = true := by
  simp [Shape.tupleFlat, tupleFlatList_iff]

theorem tupleFlat_tuple_iff {es : List Shape} {o : Bool} :
    (Shape.tuple es o).tupleFlat = true ↔ ∀ e ∈ es, e.tupleFlat = true ∧ e.isOneOf = false := by
  simp only [Shape.tupleFlat, Bool.and_eq_true, List.all_eq_true, tupleFlatList_iff, Bool.not_eq_true']
  exact ⟨fun h e he => ⟨h.2 e he, h.1 e he⟩, fun h => ⟨fun e he => (h e he).2, fun e he => (h e he).1⟩⟩

theorem tuple_elems_not_oneOf {es : List Shape} {o : Bool} (h : (Shape.tuple es o).tupleFlat = true) :
    ∀ e ∈ es, e.isOneOf = false := fun e he => (tupleFlat_tuple_iff.1 h e he).2

theorem plain_tupleFlat {s : Shape} (h : s.plain = true) : s.tupleFlat = true := by
  induction s with
  | array t o ih => exact ih h
  | object c o ih =>
    simp only [Shape.plain, plainMembers_iff] at h
    exact tupleFlatMembers_iff.2 fun kv hkv => ih kv hkv (h kv hkv)
  | tuple es o ih =>
    simp only [Shape.plain, plainList_iff] at h
    simp only [Shape.tupleFlat, Bool.and_eq_true, List.all_eq_true, tupleFlatList_iff]
    exact ⟨fun e he => by simp [plain_not_oneOf (h e he)], fun e he => ih e he (h e he)⟩
  | oneOf => cases h
  | _ => rfl

/-! ### how two optional flags compare: `!o || p` is "`o` implies `p`" -/

theorem flag_le {o p : Bool} : (!o || p) = true ↔ (o = true → p = true) := by
  revert o p
  decide

theorem flag_or_left {o : Bool} (p : Bool) (h : o = true) : (o || p) = true := by
  revert o p
  decide

theorem flag_or_right {p : Bool} (o : Bool) (h : p = true) : (o || p) = true := by
  revert o p
  decide

theorem flag_le_or {o p : Bool} (h : o = true → p = true) (q : Bool) : (!o || (p || q)) = true := by
  revert o p q
  decide

theorem flag_le_or_right (o p : Bool) : (!p || (o || p)) = true := by
  revert o p
  decide

theorem flag_mono {o p q x : Bool} (h : ((!o || p) && x) = true) (hq : p = true → q = true) :
    ((!o || q) && x) = true := by
  revert o p q x
  decide

end ShapeVerif
