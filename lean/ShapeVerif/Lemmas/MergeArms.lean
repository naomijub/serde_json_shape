/-
`merger` by classes of arms. The 64 arms of `shape/merger.rs` fall into thirteen classes;
`Merged a b r` lists them with the recursive calls as premises, and `merged` shows that `merger a b`
is always produced by one of them, so that a fact about `merger` is proved by induction on `Merged`,
one case per class. What the non-recursive arms build is described first: the content map of the
`(Object, Object)` arm key by key, the variant sets by their members, the tuple zip as `Zipped`.
-/
import ShapeVerif.Lemmas.ShapeClasses
import ShapeVerif.Lemmas.Containers
import ShapeVerif.Model.Merge
namespace ShapeVerif
open Shape Std

theorem mergeMembers_keys (c other : Members) : mapKeys (mergeMembers c other).1 = mapKeys c := by
  induction c generalizing other with
  | nil => simp [mergeMembers, mapKeys]
  | cons a c ih =>
    obtain ⟨k, v⟩ := a
    simp only [mergeMembers, mapKeys] at ih ⊢
    split <;> simp [ih]

theorem mergeMembers_spec (c : Members) : ∀ (other : Members), sortedKeys c = true →
    sortedKeys other = true → ∀ k,
    mapGet k (mergeMembers c other).1 =
      (match mapGet k c with
       | some v => some (match mapGet k other with
          | some ov => merger v ov
          | none => v.asOptional)
       | none => none) ∧
    mapGet k (mergeMembers c other).2 = (if (mapGet k c).isSome then none else mapGet k other) ∧
    sortedKeys (mergeMembers c other).2 = true := by
  induction c with
  | nil =>
    intro other _ ho k
    simp [mergeMembers, mapGet, ho]
  | cons a c ih =>
    obtain ⟨k0, v0⟩ := a
    intro other hc ho k
    have hc' := sortedKeys_tail hc
    -- the head key `k0` is looked up and, if found, removed from `other`; for `k = k0` the equations
    -- hold by `hget`, for `k ≠ k0` they are the induction hypothesis
    simp only [mergeMembers]
    cases hget : mapGet k0 other with
    | some ov =>
      obtain ⟨i1, i2, i3⟩ := ih (mapRemove k0 other) hc' (sortedKeys_mapRemove ho) k
      refine ⟨?_, ?_, i3⟩
      all_goals
        simp only [mapGet_cons, beq_iff_eq, i1, i2, mapGet_mapRemove ho]
        by_cases hk : k = k0 <;> simp [hk, hget]
    | none =>
      obtain ⟨i1, i2, i3⟩ := ih other hc' ho k
      refine ⟨?_, ?_, i3⟩
      all_goals
        simp only [mapGet_cons, beq_iff_eq, i1, i2]
        by_cases hk : k = k0 <;> simp [hk, hget]

def mergedContent (c oc : Members) : Members :=
  let r := mergeMembers c oc
  mapOfList (r.1 ++ r.2.map (fun kv => (kv.1, kv.2.asOptional)))

theorem merger_object_object (c oc : Members) (o p : Bool) :
    merger (.object c o) (.object oc p) = .object (mergedContent c oc) (o || p) := rfl

/-- the merged content map key by key (what `object_struct`, Props/C08, states of `merger`) -/
theorem mapGet_mergedContent {c oc : Members} (hc : sortedKeys c = true) (ho : sortedKeys oc = true)
    (k : String) :
    mapGet k (mergedContent c oc) =
      match mapGet k c, mapGet k oc with
      | some v, some ov => some (merger v ov)
      | some v, none => some v.asOptional
      | none, some ov => some ov.asOptional
      | none, none => none := by
  unfold mergedContent
  obtain ⟨s1, s2, s3⟩ := mergeMembers_spec c oc hc ho k
  have hs1 : sortedKeys (mergeMembers c oc).1 = true := (sortedKeys_congr (mergeMembers_keys c oc)).trans hc
  have hs2 : sortedKeys ((mergeMembers c oc).2.map fun kv => (kv.1, kv.2.asOptional)) = true :=
    (sortedKeys_congr (by simp [mapKeys])).trans s3
  simp only [mapGet_mapOfList, List.reverse_append, mapGet_append, mapGet_reverse hs1, mapGet_reverse hs2,
    mapGet_map_val (fun _ => asOptional), s1, s2]
  cases mapGet k c <;> cases mapGet k oc <;> rfl

theorem sortedKeys_mergedContent (c oc : Members) : sortedKeys (mergedContent c oc) = true :=
  sortedKeys_mapOfList _

theorem mem_mergedContent {c oc : Members} (hc : sortedKeys c = true) (ho : sortedKeys oc = true)
    {k : String} {s : Shape} (h : (k, s) ∈ mergedContent c oc) :
    (∃ v ov, mapGet k c = some v ∧ mapGet k oc = some ov ∧ s = merger v ov) ∨
      (∃ v, (k, v) ∈ c ∧ s = v.asOptional) ∨ ∃ ov, (k, ov) ∈ oc ∧ s = ov.asOptional := by
  have hget := mapGet_eq_some_of_mem (sortedKeys_mergedContent c oc) h
  rw [mapGet_mergedContent hc ho] at hget
  cases hv : mapGet k c <;> cases hov : mapGet k oc <;> simp only [hv, hov] at hget <;> cases hget
  · exact Or.inr (Or.inr ⟨_, mem_of_mapGet hov, rfl⟩)
  · exact Or.inr (Or.inl ⟨_, mem_of_mapGet hv, rfl⟩)
  · exact Or.inl ⟨_, _, rfl, rfl, rfl⟩

theorem mem_nullIf {c : Bool} {v : Shape} :
    v ∈ (if c then setInsert .null [] else []) ↔ v = .null ∧ c = true := by
  cases c <;> simp [setInsert]

theorem sortedSet_nullIf (c : Bool) : sortedSet (if c then setInsert .null [] else []) = true := by
  cases c <;> rfl

def mixedVariants (a b : Shape) : List Shape :=
  setOfList ([a.asNonOptional, b.asNonOptional] ++ (if a.isOptional || b.isOptional then [.null] else []))

theorem mixed_eq (a b : Shape) : mixed a b = .oneOf (mixedVariants a b) false := rfl

theorem mem_mixedVariants {a b v : Shape} : v ∈ mixedVariants a b ↔
    v = a.asNonOptional ∨ v = b.asNonOptional ∨ (v = .null ∧ (a.isOptional || b.isOptional) = true) := by
  unfold mixedVariants
  cases a.isOptional || b.isOptional <;> simp [mem_setOfList]

theorem mem_addToOneOf {x v : Shape} {vs : List Shape} : v ∈ addToOneOf x vs ↔
    v = x.asNonOptional ∨ v ∈ vs ∨ (v = .null ∧ x.isOptional = true) := by
  unfold addToOneOf
  by_cases hn : Shape.null ∈ vs
  · simp only [setContains_iff.2 hn, Bool.not_true, Bool.and_false, Bool.false_eq_true, if_false,
      mem_setInsert]
    constructor
    · rintro (h | h)
      · exact Or.inl h
      · exact Or.inr (Or.inl h)
    · rintro (h | h | ⟨rfl, _⟩)
      · exact Or.inl h
      · exact Or.inr h
      · exact Or.inr hn
  · cases ho : x.isOptional <;>
      simp [setContains_false_iff.2 hn, mem_setInsert, or_comm]

theorem sortedSet_addToOneOf {x : Shape} {vs : List Shape} (hs : sortedSet vs = true) :
    sortedSet (addToOneOf x vs) = true := by
  unfold addToOneOf
  split
  · exact sortedSet_setInsert (sortedSet_setInsert hs)
  · exact sortedSet_setInsert hs

theorem addToOneOf_of_mem {x : Shape} {R : List Shape} (hs : sortedSet R = true)
    (hself : x.asNonOptional ∈ R) (hnull : x.isOptional = true → Shape.null ∈ R) : addToOneOf x R = R :=
  sortedSet_ext (sortedSet_addToOneOf hs) hs fun v => by
    rw [mem_addToOneOf]
    exact ⟨fun h => h.elim (· ▸ hself) (·.elim id fun ⟨e, ho⟩ => e ▸ hnull ho), fun h => .inr (.inl h)⟩

theorem mem_arrayElemVariants {t v : Shape} {init : List Shape} : v ∈ arrayElemVariants t init ↔
    v ∈ init ∨ match t with
      | .oneOf inner io => v ∈ inner ∨ (v = .null ∧ io = true)
      | t => v = t := by
  unfold arrayElemVariants
  split
  · rename_i inner io
    cases io <;> simp [mem_setExtend, mem_setInsert, or_comm, or_left_comm, or_assoc]
  · rename_i h
    split
    · exact absurd rfl (h _ _)
    · simp [mem_setInsert, or_comm]

theorem sortedSet_arrayElemVariants {t : Shape} {init : List Shape} (h : sortedSet init = true) :
    sortedSet (arrayElemVariants t init) = true := by
  unfold arrayElemVariants
  split
  · split
    · exact sortedSet_setExtend (sortedSet_setInsert h)
    · exact sortedSet_setExtend h
  · exact sortedSet_setInsert h

/-- the element variants of the `(Array, Tuple)` and `(Tuple, Array)` arms -/
def arrayTupleVariants (t : Shape) (es : List Shape) : List Shape :=
  setExtend (arrayElemVariants t (if es.any isOptional || t.isOptional then setInsert .null [] else []))
    (es.map asNonOptional)

theorem mem_arrayTupleVariants {t v : Shape} {es : List Shape} : v ∈ arrayTupleVariants t es ↔
    (v = .null ∧ (es.any isOptional || t.isOptional) = true) ∨ (∃ e ∈ es, v = e.asNonOptional) ∨
      match t with
      | .oneOf inner io => v ∈ inner ∨ (v = .null ∧ io = true)
      | t => v = t := by
  simp only [arrayTupleVariants, mem_setExtend, mem_arrayElemVariants, mem_nullIf, List.mem_map,
    or_assoc, eq_comm (b := v)]
  exact or_congr_right or_comm

theorem mem_arrayTupleVariants_self {t : Shape} {es : List Shape} (h : t.isOneOf = false) :
    t ∈ arrayTupleVariants t es := by
  rw [mem_arrayTupleVariants]
  cases t with
  | oneOf inner io => cases h
  | _ => exact Or.inr (Or.inr rfl)

/-- every variant is `Null`, an element of the tuple with its flag off, `t`, or a variant of `t` -/
theorem forall_mem_arrayTupleVariants {P : Shape → Prop} {t : Shape} {es : List Shape} (hnull : P .null)
    (hes : ∀ e ∈ es, P e.asNonOptional) (ht : P t) (hin : ∀ vs o, P (.oneOf vs o) → ∀ v ∈ vs, P v) :
    ∀ v ∈ arrayTupleVariants t es, P v := by
  intro v hv
  rcases mem_arrayTupleVariants.1 hv with ⟨rfl, _⟩ | ⟨e, he, rfl⟩ | hv
  · exact hnull
  · exact hes e he
  · cases t with
    | oneOf inner io => exact hv.elim (hin inner io ht v) fun h => h.1 ▸ hnull
    | _ => exact hv ▸ ht

theorem sortedSet_arrayTupleVariants (t : Shape) (es : List Shape) :
    sortedSet (arrayTupleVariants t es) = true :=
  sortedSet_setExtend (sortedSet_arrayElemVariants (sortedSet_nullIf _))

/-- the element variants of the `(Tuple, Tuple)` arm when the tuples cannot be zipped -/
def tupleUnionVariants (es os : List Shape) : List Shape :=
  setExtend (setExtend (if es.any isOptional || os.any isOptional then setInsert .null [] else [])
    (es.map asNonOptional)) (os.map asNonOptional)

theorem mem_tupleUnionVariants {es os : List Shape} {v : Shape} : v ∈ tupleUnionVariants es os ↔
    (v = .null ∧ (es.any isOptional || os.any isOptional) = true) ∨
      (∃ e ∈ es, v = e.asNonOptional) ∨ ∃ e ∈ os, v = e.asNonOptional := by
  simp only [tupleUnionVariants, mem_setExtend, mem_nullIf, List.mem_map, or_assoc, eq_comm (b := v)]

theorem sortedSet_tupleUnionVariants (es os : List Shape) :
    sortedSet (tupleUnionVariants es os) = true :=
  sortedSet_setExtend (sortedSet_setExtend (sortedSet_nullIf _))

theorem pickTuple_cases {a b c : Shape} (h : pickTuple a b = some c) :
    (isSubset a b = true ∧ c = b) ∨ (isSubset b a = true ∧ c = a) ∨
      (b = .null ∧ c = a.asOptional) ∨ (a = .null ∧ c = b.asOptional) := by
  unfold pickTuple at h
  by_cases h1 : isSubset a b = true
  · rw [if_pos h1] at h
    exact Or.inl ⟨h1, (Option.some.inj h).symm⟩
  rw [if_neg h1] at h
  by_cases h2 : isSubset b a = true
  · rw [if_pos h2] at h
    exact Or.inr (Or.inl ⟨h2, (Option.some.inj h).symm⟩)
  rw [if_neg h2] at h
  by_cases h3 : b.isNull = true
  · rw [if_pos h3] at h
    exact Or.inr (Or.inr (Or.inl ⟨isNull_iff.1 h3, (Option.some.inj h).symm⟩))
  rw [if_neg h3] at h
  by_cases h4 : a.isNull = true
  · rw [if_pos h4] at h
    exact Or.inr (Or.inr (Or.inr ⟨isNull_iff.1 h4, (Option.some.inj h).symm⟩))
  rw [if_neg h4] at h
  cases h

theorem pickTuple_isSome (a b : Shape) :
    (pickTuple a b).isSome = (isSubset a b || isSubset b a || b.isNull || a.isNull) := by
  unfold pickTuple
  simp [apply_ite Option.isSome, Bool.or_assoc]

/-- `Zipped es os folded`: the zip of two tuples of the same length succeeds, position by position -/
inductive Zipped : List Shape → List Shape → List Shape → Prop
  | nil : Zipped [] [] []
  | cons {e d c : Shape} {es os cs : List Shape} : pickTuple e d = some c → Zipped es os cs →
      Zipped (e :: es) (d :: os) (c :: cs)

theorem zipped_iff : ∀ {es os folded : List Shape},
    Zipped es os folded ↔ es.length = os.length ∧ pickAll es os = some folded
  | [], [], folded => ⟨fun h => by cases h; exact ⟨rfl, rfl⟩, fun h => by cases h.2; exact .nil⟩
  | [], _ :: _, _ => ⟨nofun, fun h => by cases h.1⟩
  | _ :: _, [], _ => ⟨nofun, fun h => by cases h.1⟩
  | e :: es, o :: os, folded => by
    constructor
    · rintro (_ | ⟨hc, h⟩)
      obtain ⟨hl, hp⟩ := zipped_iff.1 h
      simp [pickAll, hc, hp, hl]
    · rintro ⟨hl, h⟩
      simp only [pickAll] at h
      cases hc : pickTuple e o with
      | none => simp [hc] at h
      | some c =>
        cases hcs : pickAll es os with
        | none => simp [hc, hcs] at h
        | some cs =>
          simp only [hc, hcs, Option.some.injEq] at h
          subst h
          exact .cons hc (zipped_iff.2 ⟨Nat.succ.inj hl, hcs⟩)

theorem Zipped.unique {es os f f' : List Shape} (h : Zipped es os f) (h' : Zipped es os f') : f = f' :=
  Option.some.inj ((zipped_iff.1 h).2.symm.trans (zipped_iff.1 h').2)

/-- `T + Null = Option<T>` -/
theorem merge_null_right (s : Shape) : merger s .null = s.asOptional := by
  cases s <;> rfl

/-- `Null + T = Option<T>` -/
theorem merge_null_left (s : Shape) : merger .null s = s.asOptional := rfl

/-- `Array<T> + Array<U> = Array<T + U>` -/
theorem array_struct (t u : Shape) (o p : Bool) :
    merger (.array t o) (.array u p) = .array (merger t u) (o || p) := rfl

theorem merger_scalars {k : Shape} (hk : k.isScalar = true) (o p : Bool) :
    merger (withOptional o k) (withOptional p k) = withOptional (o || p) k := by
  cases k with
  | bool _ | number _ | string _ => rfl
  | _ => cases hk

theorem merger_oneOf_right {a : Shape} (ha : simple a = true) (vs : List Shape) (p : Bool) :
    merger a (.oneOf vs p) = .oneOf (addToOneOf a vs) p := by
  cases a with
  | null | oneOf _ _ => cases ha
  | _ => rfl

theorem merger_oneOf_left {b : Shape} (hb : simple b = true) (vs : List Shape) (o : Bool) :
    merger (.oneOf vs o) b = .oneOf (addToOneOf b vs) o := by
  cases b with
  | null | oneOf _ _ => cases hb
  | _ => rfl

theorem merger_oneOf_oneOf (vs : List Shape) (o : Bool) (ws : List Shape) (p : Bool) :
    merger (.oneOf vs o) (.oneOf ws p) = .oneOf (setExtend vs ws) (o || p) := rfl

theorem merger_array_tuple (t : Shape) (o : Bool) (es : List Shape) (p : Bool) :
    merger (.array t o) (.tuple es p) = .array (.oneOf (arrayTupleVariants t es) false) (o || p) := rfl

theorem merger_tuple_array (es : List Shape) (p : Bool) (t : Shape) (o : Bool) :
    merger (.tuple es p) (.array t o) = .array (.oneOf (arrayTupleVariants t es) false) (o || p) := rfl

theorem merger_tuple_tuple (es : List Shape) (o : Bool) (os : List Shape) (p : Bool) :
    merger (.tuple es o) (.tuple os p) =
      match es.length == os.length, pickAll es os with
      | true, some folded => .tuple folded (o || p)
      | _, _ => .array (.oneOf (tupleUnionVariants es os) false) (o || p) := rfl

theorem merger_tuples_zipped {es os folded : List Shape} (h : Zipped es os folded) (o p : Bool) :
    merger (.tuple es o) (.tuple os p) = .tuple folded (o || p) := by
  obtain ⟨hl, hp⟩ := zipped_iff.1 h
  rw [merger_tuple_tuple, beq_iff_eq.2 hl, hp]

theorem merger_tuples_union {es os : List Shape} (h : ∀ folded, ¬ Zipped es os folded) (o p : Bool) :
    merger (.tuple es o) (.tuple os p) = .array (.oneOf (tupleUnionVariants es os) false) (o || p) := by
  rw [merger_tuple_tuple]
  split
  · rename_i folded hl hp
    exact absurd (zipped_iff.2 ⟨by simpa using hl, hp⟩) (h folded)
  · rfl

/-- the 28 ordered pairs of different kinds among bool, number, string, array, object, tuple, without
(array, tuple) and (tuple, array) -/
def mixes (a b : Shape) : Bool :=
  simple a && simple b && a.tag != b.tag && !(a.isArray && b.isTuple) && !(a.isTuple && b.isArray)

theorem merger_mixed {a b : Shape} (h : mixes a b = true) : merger a b = mixed a b := by
  -- of the 64 pairs of constructors, 28 are such arms and hold by `rfl`; for the others `h` is `false = true`
  cases a <;> cases b <;> first | contradiction | rfl

theorem simple_of_mixes {a b : Shape} (h : mixes a b = true) : simple a = true ∧ simple b = true := by
  simp only [mixes, Bool.and_eq_true] at h
  exact ⟨h.1.1.1.1, h.1.1.1.2⟩

theorem mixes_comm (a b : Shape) : mixes a b = mixes b a := by
  simp only [mixes, bne, Bool.beq_comm (a := a.tag), Bool.and_comm (simple a), Bool.and_comm a.isArray,
    Bool.and_comm a.isTuple, Bool.and_right_comm _ (!(b.isTuple && a.isArray))]

/-- To use it: state `theorem Merged.foo (h : Merged a b r) : … r …` with `r` general, prove it by
`induction h`, instantiate with `merged a b`. The classes overlap only at `(null, null)`. -/
inductive Merged : Shape → Shape → Shape → Prop
  | nullLeft (b : Shape) : Merged .null b b.asOptional
  | nullRight (a : Shape) : Merged a .null a.asOptional
  | scalars (k : Shape) (o p : Bool) : k.isScalar = true →
      Merged (withOptional o k) (withOptional p k) (withOptional (o || p) k)
  | oneOfs (vs : List Shape) (o : Bool) (ws : List Shape) (p : Bool) :
      Merged (.oneOf vs o) (.oneOf ws p) (.oneOf (setExtend vs ws) (o || p))
  | intoRight (a : Shape) (vs : List Shape) (p : Bool) : simple a = true →
      Merged a (.oneOf vs p) (.oneOf (addToOneOf a vs) p)
  | intoLeft (vs : List Shape) (o : Bool) (b : Shape) : simple b = true →
      Merged (.oneOf vs o) b (.oneOf (addToOneOf b vs) o)
  | arrays (t : Shape) (o : Bool) (t' : Shape) (p : Bool) : Merged t t' (merger t t') →
      Merged (.array t o) (.array t' p) (.array (merger t t') (o || p))
  | objects (c : Members) (o : Bool) (oc : Members) (p : Bool) :
      (∀ k v ov, mapGet k c = some v → mapGet k oc = some ov → Merged v ov (merger v ov)) →
      Merged (.object c o) (.object oc p) (.object (mergedContent c oc) (o || p))
  | arrayTuple (t : Shape) (o : Bool) (es : List Shape) (p : Bool) :
      Merged (.array t o) (.tuple es p) (.array (.oneOf (arrayTupleVariants t es) false) (o || p))
  | tupleArray (es : List Shape) (p : Bool) (t : Shape) (o : Bool) :
      Merged (.tuple es p) (.array t o) (.array (.oneOf (arrayTupleVariants t es) false) (o || p))
  | tuplesZip (es : List Shape) (o : Bool) (os : List Shape) (p : Bool) (folded : List Shape) :
      Zipped es os folded → Merged (.tuple es o) (.tuple os p) (.tuple folded (o || p))
  | tuplesUnion (es : List Shape) (o : Bool) (os : List Shape) (p : Bool) :
      (∀ folded, ¬ Zipped es os folded) →
      Merged (.tuple es o) (.tuple os p) (.array (.oneOf (tupleUnionVariants es os) false) (o || p))
  | mixed (a b : Shape) : mixes a b = true → Merged a b (mixed a b)

theorem merged_tuples (es : List Shape) (o : Bool) (os : List Shape) (p : Bool) :
    Merged (.tuple es o) (.tuple os p) (merger (.tuple es o) (.tuple os p)) := by
  by_cases h : ∃ folded, Zipped es os folded
  · obtain ⟨folded, h⟩ := h
    rw [merger_tuples_zipped h]
    exact .tuplesZip _ _ _ _ _ h
  · rw [merger_tuples_union fun f hf => h ⟨f, hf⟩]
    exact .tuplesUnion _ _ _ _ fun f hf => h ⟨f, hf⟩

theorem merged (a b : Shape) : Merged a b (merger a b) := by
  -- each `exact` is checked by unfolding `merger` on the two constructors; a scalar kind is named by
  -- its shape with the flag off, the flags come back through `withOptional`
  induction a generalizing b with
  | null => exact .nullLeft b
  | bool o =>
    cases b with
    | null => exact .nullRight _
    | bool p => exact .scalars (.bool false) o p rfl
    | oneOf vs p => exact .intoRight _ _ _ rfl
    | _ => exact .mixed _ _ rfl
  | number o =>
    cases b with
    | null => exact .nullRight _
    | number p => exact .scalars (.number false) o p rfl
    | oneOf vs p => exact .intoRight _ _ _ rfl
    | _ => exact .mixed _ _ rfl
  | string o =>
    cases b with
    | null => exact .nullRight _
    | string p => exact .scalars (.string false) o p rfl
    | oneOf vs p => exact .intoRight _ _ _ rfl
    | _ => exact .mixed _ _ rfl
  | array t o ih =>
    cases b with
    | null => exact .nullRight _
    | array t' p => exact .arrays _ _ _ _ (ih t')
    | tuple es p => exact .arrayTuple ..
    | oneOf vs p => exact .intoRight _ _ _ rfl
    | _ => exact .mixed _ _ rfl
  | object c o ih =>
    cases b with
    | null => exact .nullRight _
    | object oc p =>
      rw [merger_object_object]
      exact .objects _ _ _ _ fun k v ov hv _ => ih _ (mem_of_mapGet hv) ov
    | oneOf vs p => exact .intoRight _ _ _ rfl
    | _ => exact .mixed _ _ rfl
  | oneOf vs o =>
    cases b with
    | null => exact .nullRight _
    | oneOf ws p => exact .oneOfs ..
    | _ => exact .intoLeft _ _ _ rfl
  | tuple es o =>
    cases b with
    | null => exact .nullRight _
    | array t p => exact .tupleArray ..
    | tuple os p => exact merged_tuples ..
    | oneOf vs p => exact .intoRight _ _ _ rfl
    | _ => exact .mixed _ _ rfl

end ShapeVerif
