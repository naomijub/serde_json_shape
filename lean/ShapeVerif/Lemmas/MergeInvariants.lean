/-
The two invariants of accumulated shapes that `merger` keeps: well-formedness (every map and set
sorted, as `BTreeMap`/`BTreeSet` guarantee) and `tupleFlat` (no `OneOf` directly inside a `Tuple`).
Both are proved by induction on `Merged`; in the non-recursive arms every variant of the result is
`Null`, a variant of an operand, or an operand with its flag changed.
-/
import ShapeVerif.Lemmas.MergeArms
namespace ShapeVerif
open Shape Std

/-- what both operands' elements satisfy, and `asOptional` keeps, the zipped elements satisfy -/
theorem Zipped.preserves {P : Shape → Prop} (hopt : ∀ s, P s → P s.asOptional) {es os folded : List Shape}
    (h : Zipped es os folded) : (∀ e ∈ es, P e) → (∀ e ∈ os, P e) → ∀ e ∈ folded, P e := by
  induction h with
  | nil => exact fun _ _ _ h => nomatch h
  | cons hc _ ih =>
    simp only [List.forall_mem_cons]
    refine fun he hd => ⟨?_, ih he.2 hd.2⟩
    rcases pickTuple_cases hc with ⟨_, rfl⟩ | ⟨_, rfl⟩ | ⟨_, rfl⟩ | ⟨_, rfl⟩
    · exact hd.1
    · exact he.1
    · exact hopt _ he.1
    · exact hopt _ hd.1

theorem wf_addToOneOf {x : Shape} {vs : List Shape} {p : Bool} (hx : x.wf = true)
    (h : (Shape.oneOf vs p).wf = true) : (Shape.oneOf (addToOneOf x vs) p).wf = true := by
  simp only [wf_oneOf_iff, wfList_iff, mem_addToOneOf] at h ⊢
  refine ⟨sortedSet_addToOneOf h.1, ?_⟩
  rintro v (rfl | hv | ⟨rfl, _⟩)
  · exact wf_asNonOptional hx
  · exact h.2 v hv
  · rfl

theorem Merged.wf {a b r : Shape} (h : Merged a b r) : a.wf = true → b.wf = true → r.wf = true := by
  induction h with
  | nullLeft b => exact fun _ hb => wf_asOptional hb
  | nullRight a => exact fun ha _ => wf_asOptional ha
  | scalars k o p _ =>
    simp only [wf_withOptional]
    exact fun h _ => h
  | oneOfs vs o ws p =>
    simp only [wf_oneOf_iff, wfList_iff, mem_setExtend]
    exact fun ha hb => ⟨sortedSet_setExtend ha.1, fun v hv => hv.elim (ha.2 v) (hb.2 v)⟩
  | intoRight a vs p _ => exact wf_addToOneOf
  | intoLeft vs o b _ => exact fun ha hb => wf_addToOneOf hb ha
  | arrays t o t' p _ ih => exact ih
  | objects c o oc p _ ih =>
    simp only [wf_object_iff]
    intro ha hb
    refine ⟨sortedKeys_mergedContent c oc, fun ⟨k, s⟩ hks => ?_⟩
    rcases mem_mergedContent ha.1 hb.1 hks with ⟨v, ov, hv, hov, rfl⟩ | ⟨v, hv, rfl⟩ | ⟨ov, hov, rfl⟩
    · exact ih k v ov hv hov (ha.2 _ (mem_of_mapGet hv)) (hb.2 _ (mem_of_mapGet hov))
    · exact wf_asOptional (ha.2 _ hv)
    · exact wf_asOptional (hb.2 _ hov)
  | arrayTuple t o es p => exact fun ha hb => array_tuple ha hb
  | tupleArray es p t o => exact fun ha hb => array_tuple hb ha
  | tuplesZip es o os p folded hz =>
    simp only [wf_tuple_iff]
    exact hz.preserves (P := (·.wf = true)) fun _ => wf_asOptional
  | tuplesUnion es o os p _ =>
    simp only [Shape.wf, Bool.and_eq_true, wfList_iff, mem_tupleUnionVariants]
    rintro ha hb
    refine ⟨sortedSet_tupleUnionVariants es os, ?_⟩
    rintro v (⟨rfl, _⟩ | ⟨e, he, rfl⟩ | ⟨e, he, rfl⟩)
    · exact rfl
    · exact wf_asNonOptional (ha e he)
    · exact wf_asNonOptional (hb e he)
  | mixed a b _ =>
    simp only [mixed_eq, wf_oneOf_iff, wfList_iff, mem_mixedVariants]
    rintro ha hb
    refine ⟨sortedSet_setOfList _, ?_⟩
    rintro v (rfl | rfl | ⟨rfl, _⟩)
    · exact wf_asNonOptional ha
    · exact wf_asNonOptional hb
    · exact rfl
where
  array_tuple {t : Shape} {o p : Bool} {es : List Shape} (ht : (Shape.array t o).wf = true)
      (he : (Shape.tuple es p).wf = true) {q : Bool} :
      (Shape.array (.oneOf (arrayTupleVariants t es) false) q).wf = true := by
    simp only [Shape.wf, Bool.and_eq_true, wfList_iff] at ht he ⊢
    exact ⟨sortedSet_arrayTupleVariants t es, forall_mem_arrayTupleVariants rfl
      (fun e hem => wf_asNonOptional (he e hem)) ht fun _ _ h => wfList_iff.1 (wf_oneOf_iff.1 h).2⟩

theorem merger_wf {a b : Shape} (ha : a.wf = true) (hb : b.wf = true) : (merger a b).wf = true :=
  (merged a b).wf ha hb

theorem tupleFlat_addToOneOf {x : Shape} {vs : List Shape} {p : Bool} (hx : x.tupleFlat = true)
    (h : (Shape.oneOf vs p).tupleFlat = true) : (Shape.oneOf (addToOneOf x vs) p).tupleFlat = true := by
  simp only [tupleFlat_oneOf_iff, mem_addToOneOf] at h ⊢
  rintro v (rfl | hv | ⟨rfl, _⟩)
  · exact tupleFlat_asNonOptional hx
  · exact h v hv
  · rfl

theorem Merged.tupleFlat {a b r : Shape} (h : Merged a b r) : a.wf = true → b.wf = true →
    a.tupleFlat = true → b.tupleFlat = true → r.tupleFlat = true := by
  induction h with
  | nullLeft b => exact fun _ _ _ hb => tupleFlat_asOptional hb
  | nullRight a => exact fun _ _ ha _ => tupleFlat_asOptional ha
  | scalars k o p _ =>
    simp only [tupleFlat_withOptional]
    exact fun _ _ h _ => h
  | oneOfs vs o ws p =>
    simp only [tupleFlat_oneOf_iff, mem_setExtend]
    exact fun _ _ ha hb v hv => hv.elim (ha v) (hb v)
  | intoRight a vs p _ => exact fun _ _ => tupleFlat_addToOneOf
  | intoLeft vs o b _ => exact fun _ _ ha hb => tupleFlat_addToOneOf hb ha
  | arrays t o t' p _ ih => exact ih
  | objects c o oc p _ ih =>
    simp only [wf_object_iff, Shape.tupleFlat, tupleFlatMembers_iff]
    intro haw hbw ha hb ⟨k, s⟩ hks
    rcases mem_mergedContent haw.1 hbw.1 hks with ⟨v, ov, hv, hov, rfl⟩ | ⟨v, hv, rfl⟩ | ⟨ov, hov, rfl⟩
    · exact ih k v ov hv hov (haw.2 _ (mem_of_mapGet hv)) (hbw.2 _ (mem_of_mapGet hov))
        (ha _ (mem_of_mapGet hv)) (hb _ (mem_of_mapGet hov))
    · exact tupleFlat_asOptional (ha _ hv)
    · exact tupleFlat_asOptional (hb _ hov)
  | arrayTuple t o es p => exact fun _ _ ha hb => array_tuple ha hb
  | tupleArray es p t o => exact fun _ _ ha hb => array_tuple hb ha
  | tuplesZip es o os p folded hz =>
    simp only [tupleFlat_tuple_iff]
    exact fun _ _ => hz.preserves fun _ h => ⟨tupleFlat_asOptional h.1, (isOneOf_withOptional _ _).trans h.2⟩
  | tuplesUnion es o os p _ =>
    intro _ _ ha hb
    rw [tupleFlat_tuple_iff] at ha hb
    simp only [Shape.tupleFlat, tupleFlatList_iff, mem_tupleUnionVariants]
    rintro v (⟨rfl, _⟩ | ⟨e, he, rfl⟩ | ⟨e, he, rfl⟩)
    · rfl
    · exact tupleFlat_asNonOptional (ha e he).1
    · exact tupleFlat_asNonOptional (hb e he).1
  | mixed a b _ =>
    simp only [mixed_eq, tupleFlat_oneOf_iff, mem_mixedVariants]
    rintro _ _ ha hb v (rfl | rfl | ⟨rfl, _⟩)
    · exact tupleFlat_asNonOptional ha
    · exact tupleFlat_asNonOptional hb
    · rfl
where
  array_tuple {t : Shape} {o p : Bool} {es : List Shape} (ht : (Shape.array t o).tupleFlat = true)
      (he : (Shape.tuple es p).tupleFlat = true) {q : Bool} :
      (Shape.array (.oneOf (arrayTupleVariants t es) false) q).tupleFlat = true := by
    simp only [tupleFlat_tuple_iff] at he
    simp only [Shape.tupleFlat, tupleFlatList_iff] at ht ⊢
    exact forall_mem_arrayTupleVariants rfl (fun e hem => tupleFlat_asNonOptional (he e hem).1) ht
      fun _ _ => tupleFlat_oneOf_iff.1

theorem merger_tupleFlat {a b : Shape} (haw : a.wf = true) (hbw : b.wf = true) (ha : a.tupleFlat = true)
    (hb : b.tupleFlat = true) : (merger a b).tupleFlat = true :=
  (merged a b).tupleFlat haw hbw ha hb

end ShapeVerif
