/-
Completeness of the recovering parser in clean mode: on a phrase of the token grammar it reports
nothing (so `rules_sound` applies and describes what it builds).
-/
import ShapeVerif.Lemmas.ParseSound
import ShapeVerif.Lemmas.GrammarDet
namespace ShapeVerif
open Shape

/-- a run that reported nothing and stopped, in a clean state, with exactly `rest` of the grammar's tokens left -/
structure Quiet (s s' : PState) (rest : List Token) : Prop where
  same : s'.diags = s.diags
  sig : sig s'.toks = rest
  clean : CleanSt s'
  le : s'.toks.length ≤ s.toks.length

theorem Quiet.trans {s s1 s2 : PState} {r1 r2 : List Token} (h1 : Quiet s s1 r1) (h2 : Quiet s1 s2 r2) : Quiet s s2 r2 :=
  ⟨h2.same.trans h1.same, h2.sig, h2.clean, Nat.le_trans h2.le h1.le⟩

theorem expect_quiet {s : PState} (h : CleanSt s) {t : Token} {rest : List Token} {k : Tok}
    (hs : sig s.toks = t :: rest) (hk : t.kind = k) (hk0 : k ≠ .eof) :
    Quiet s (s.expect k).1 rest ∧ (s.expect k).1.toks.length < s.toks.length := by
  have hcur := current_of_sig h hs
  have hd : (s.expect k).1.diags = s.diags := by
    unfold PState.expect
    simp only [hcur, hk, beq_self_eq_true, if_true]
    unfold PState.advance
    split <;> rfl
  have st := expect_step h k hk0 hd
  obtain ⟨t', ts, sk, ht, _, _, _, hsig⟩ := st.tok
  rw [hs] at hsig
  exact ⟨⟨hd, (List.cons.inj hsig).2.symm, st.clean, Nat.le_of_lt st.less⟩, st.less⟩

theorem elems_split {key : Token → String} : ∀ {ts : List Token} {xs : List Doc}, TElems key ts xs →
    ∃ ts1 x more xs', ts = ts1 ++ more ∧ TValue key ts1 x ∧ TMoreElems key more xs'
  | _, _, .one hv => ⟨_, _, [], [], by simp, hv, .nil⟩
  | _, _, @TElems.cons _ c ts rest x xs hc hv hrest => by
    obtain ⟨ts1, x', more, xs', e1, h1, h2⟩ := elems_split hrest
    exact ⟨ts, x, c :: ts1 ++ more, _, by rw [e1]; simp, hv, .cons hc h1 h2⟩

theorem members_split {key : Token → String} : ∀ {ts : List Token} {ms : List (String × Doc)}, TMembers key ts ms →
    ∃ k c ts1 v more ms', ts = k :: c :: ts1 ++ more ∧ k.kind = .string ∧ c.kind = .colon ∧
      TValue key ts1 v ∧ TMore key more ms'
  | _, _, .one hk hc hv => ⟨_, _, _, _, [], [], by simp, hk, hc, hv, .nil⟩
  | _, _, @TMembers.cons _ k c m ts rest v ms hk hc hm hv hrest => by
    obtain ⟨k', c', ts1, v', more, ms', e1, h1, h2, h3, h4⟩ := members_split hrest
    exact ⟨k, c, ts, v, m :: k' :: c' :: ts1 ++ more, _, by rw [e1]; simp, hk, hc, hv, .cons hm h1 h2 h3 h4⟩

theorem literal_quiet {s : PState} (h : CleanSt s) {t : Token} {rest : List Token}
    (hs : sig s.toks = t :: rest) (hk : isLiteralStart t.kind = true) : Quiet s (ruleLiteral s).1 rest := by
  have hcur := current_of_sig h hs
  have := (expect_quiet h hs rfl (by rintro e; rw [e] at hk; cases hk)).1
  rw [ruleLiteral_eq, hcur, if_pos hk]
  unfold litStep
  split <;> exact this

/-- On a phrase of the grammar every rule function runs quietly and leaves what follows the phrase. The
state in between two calls is clean because the first call was quiet on a phrase: no appeal to what it
built, and none to the text. -/
theorem rules_quiet (key : Token → String) (fuel : Nat) :
    (∀ s ph rest d, CleanSt s → 2 * s.toks.length + 2 ≤ fuel → sig s.toks = ph ++ rest → TValue key ph d →
      Quiet s (ruleValue fuel s).1 rest) ∧
    (∀ s (k c : Token) ph rest v, CleanSt s → 2 * s.toks.length + 1 ≤ fuel → sig s.toks = k :: c :: ph ++ rest →
      k.kind = .string → c.kind = .colon → TValue key ph v → Quiet s (ruleMember fuel s).1 rest) ∧
    (∀ s more (r : Token) rest ms, CleanSt s → 2 * s.toks.length + 1 ≤ fuel → sig s.toks = more ++ r :: rest →
      TMore key more ms → r.kind = .rbrace → Quiet s (objectLoop fuel s).1 (r :: rest)) ∧
    (∀ s (l : Token) tl rest d, CleanSt s → 2 * s.toks.length + 1 ≤ fuel → sig s.toks = l :: tl ++ rest →
      TValue key (l :: tl) d → l.kind = .lbrace → Quiet s (ruleObject fuel s).1 rest) ∧
    (∀ s more (r : Token) rest xs, CleanSt s → 2 * s.toks.length + 1 ≤ fuel → sig s.toks = more ++ r :: rest →
      TMoreElems key more xs → r.kind = .rbrak → Quiet s (arrayLoop fuel s).1 (r :: rest)) ∧
    (∀ s (l : Token) tl rest d, CleanSt s → 2 * s.toks.length + 1 ≤ fuel → sig s.toks = l :: tl ++ rest →
      TValue key (l :: tl) d → l.kind = .lbrak → Quiet s (ruleArray fuel s).1 rest) := by
  induction fuel with
  | zero =>
    refine ⟨?_, ?_, ?_, ?_, ?_, ?_⟩ <;> (intros; omega)
  | succ fuel ih =>
    obtain ⟨ihV, ihM, ihOL, ihO, ihAL, ihA⟩ := ih
    refine ⟨?_, ?_, ?_, ?_, ?_, ?_⟩
    · intro s ph rest d hc hf hs htv
      obtain ⟨t, tl, rfl, -⟩ := first_of_value htv
      have hcur : s.current = t.kind := current_of_sig hc hs
      rw [ruleValue_succ, hcur]
      rcases htv.head with ⟨hl, rfl, -⟩ | ⟨hl, -⟩ | ⟨hl, -⟩
      · have : (t.kind == .lbrace) = false ∧ (t.kind == .lbrak) = false := by
          revert hl; cases t.kind <;> decide
        rw [this.1, this.2, hl]
        exact literal_quiet hc hs hl
      · simp only [hl]
        exact ihA s t tl rest d hc (Nat.le_of_succ_le_succ hf) hs htv hl
      · simp only [hl]
        exact ihO s t tl rest d hc (Nat.le_of_succ_le_succ hf) hs htv hl
    · intro s k c ph rest v hc hf hs hkk hck htv
      simp only [ruleMember]
      obtain ⟨q1, l1⟩ := expect_quiet hc hs hkk (by decide)
      obtain ⟨q2, l2⟩ := expect_quiet q1.clean q1.sig hck (by decide)
      exact (q1.trans q2).trans (ihV _ ph rest v q2.clean (fuel_call_succ hf (Nat.lt_trans l2 l1)) q2.sig htv)
    · intro s more r rest ms hc hf hs hmore hr
      simp only [objectLoop]
      cases hmore with
      | nil =>
        have hcur := current_of_sig hc (by simpa using hs)
        simp only [hcur, hr, show (Tok.rbrace == Tok.comma) = false by decide, Bool.false_eq_true, if_false,
          beq_self_eq_true, Bool.true_or, if_true]
        exact ⟨rfl, by simpa using hs, hc, Nat.le_refl _⟩
      | @cons m k c ts rest' v ms' hm hkk hck htv hrest =>
        have hs' : sig s.toks = m :: (k :: c :: ts ++ (rest' ++ r :: rest)) := by rw [hs]; simp
        have hcur := current_of_sig hc hs'
        simp only [hcur, hm, beq_self_eq_true, if_true]
        obtain ⟨q1, l1⟩ := expect_quiet hc hs' hm (by decide)
        have qm := ihM _ k c ts (rest' ++ r :: rest) v q1.clean (fuel_call hf l1) q1.sig hkk hck htv
        exact (q1.trans qm).trans
          (ihOL _ rest' r rest ms' qm.clean (fuel_call hf (Nat.lt_of_le_of_lt qm.le l1)) qm.sig hrest hr)
    · intro s l tl rest d hc hf hs htv hl
      simp only [ruleObject]
      obtain ⟨q1, l1⟩ := expect_quiet hc hs hl (by decide)
      rcases htv.head with ⟨h', -⟩ | ⟨h', -⟩ | ⟨-, body, r, rfl, hr, hb⟩
      · rw [hl] at h'; cases h'
      · rw [hl] at h'; cases h'
      rcases hb with ⟨rfl, -⟩ | ⟨ms, hmem, -⟩
      · have hcur := current_of_sig q1.clean q1.sig
        simp only [hcur, hr, show (Tok.rbrace == Tok.string) = false by decide, Bool.false_eq_true, if_false,
          beq_self_eq_true, if_true]
        exact q1.trans (expect_quiet q1.clean q1.sig hr (by decide)).1
      · obtain ⟨k, c, ts1, v, more, ms', rfl, hkk, hck, htv1, hmore⟩ := members_split hmem
        have hs1 : sig (s.expect .lbrace).1.toks = k :: c :: ts1 ++ (more ++ r :: rest) := by rw [q1.sig]; simp
        have hcur := current_of_sig q1.clean hs1
        simp only [hcur, hkk, beq_self_eq_true, if_true]
        have qm := ihM _ k c ts1 (more ++ r :: rest) v q1.clean (fuel_call hf l1) hs1 hkk hck htv1
        have ql := ihOL _ more r rest ms' qm.clean (fuel_call hf (Nat.lt_of_le_of_lt qm.le l1)) qm.sig hmore hr
        exact ((q1.trans qm).trans ql).trans (expect_quiet ql.clean ql.sig hr (by decide)).1
    · intro s more r rest xs hc hf hs hmore hr
      simp only [arrayLoop]
      cases hmore with
      | nil =>
        have hcur := current_of_sig hc (by simpa using hs)
        simp only [hcur, hr, show (Tok.rbrak == Tok.comma) = false by decide, Bool.false_eq_true, if_false,
          beq_self_eq_true, Bool.true_or, if_true]
        exact ⟨rfl, by simpa using hs, hc, Nat.le_refl _⟩
      | @cons m ts rest' x xs' hm htv hrest =>
        have hs' : sig s.toks = m :: (ts ++ (rest' ++ r :: rest)) := by rw [hs]; simp
        have hcur := current_of_sig hc hs'
        simp only [hcur, hm, beq_self_eq_true, if_true]
        obtain ⟨q1, l1⟩ := expect_quiet hc hs' hm (by decide)
        have qv := ihV _ ts (rest' ++ r :: rest) x q1.clean (fuel_call_succ hf l1) q1.sig htv
        exact (q1.trans qv).trans
          (ihAL _ rest' r rest xs' qv.clean (fuel_call hf (Nat.lt_of_le_of_lt qv.le l1)) qv.sig hrest hr)
    · intro s l tl rest d hc hf hs htv hl
      simp only [ruleArray]
      obtain ⟨q1, l1⟩ := expect_quiet hc hs hl (by decide)
      rcases htv.head with ⟨h', -⟩ | ⟨-, body, r, rfl, hr, hb⟩ | ⟨h', -⟩
      · rw [hl] at h'; cases h'
      · rcases hb with ⟨rfl, -⟩ | ⟨xs, helems, -⟩
        · have hcur := current_of_sig q1.clean q1.sig
          simp only [hcur, hr, show isValueStart Tok.rbrak = false by decide, Bool.false_eq_true, if_false,
            beq_self_eq_true, if_true]
          exact q1.trans (expect_quiet q1.clean q1.sig hr (by decide)).1
        · obtain ⟨ts1, x, more, xs', rfl, htv1, hmore⟩ := elems_split helems
          obtain ⟨t1, tl1, hts1, hvs⟩ := first_of_value htv1
          have hs1 : sig (s.expect .lbrak).1.toks = ts1 ++ (more ++ r :: rest) := by rw [q1.sig]; simp
          have hcur := current_of_sig q1.clean (t := t1) (by rw [hs1, hts1]; rfl)
          simp only [hcur, hvs, if_true]
          have qv := ihV _ ts1 (more ++ r :: rest) x q1.clean (fuel_call_succ hf l1) hs1 htv1
          have ql := ihAL _ more r rest xs' qv.clean (fuel_call hf (Nat.lt_of_le_of_lt qv.le l1)) qv.sig hmore hr
          exact ((q1.trans qv).trans ql).trans (expect_quiet ql.clean ql.sig hr (by decide)).1
      · rw [hl] at h'; cases h'

/-- what completeness shows of a run: nothing reported, exactly `rest` of the grammar's tokens left -/
def Done (s : PState) (r : PState × List Item) (rest : List Token) : Prop :=
  r.1.diags = s.diags ∧ sig r.1.toks = rest

theorem rules_complete (src : List Char) (key : Token → String) (fuel : Nat) :
    (∀ s ph rest d, CleanSt s → KeyOk src key s.toks → 2 * s.toks.length + 2 ≤ fuel →
      sig s.toks = ph ++ rest → TValue key ph d → Done s (ruleValue fuel s) rest) ∧
    (∀ s (k c : Token) ph rest v, CleanSt s → KeyOk src key s.toks → 2 * s.toks.length + 1 ≤ fuel →
      sig s.toks = k :: c :: ph ++ rest → k.kind = .string → c.kind = .colon → TValue key ph v →
      Done s (ruleMember fuel s) rest) ∧
    (∀ s more (r : Token) rest ms, CleanSt s → KeyOk src key s.toks → 2 * s.toks.length + 1 ≤ fuel →
      sig s.toks = more ++ r :: rest → TMore key more ms → r.kind = .rbrace →
      Done s (objectLoop fuel s) (r :: rest)) ∧
    (∀ s ph rest d (l : Token) tl, CleanSt s → KeyOk src key s.toks → 2 * s.toks.length + 1 ≤ fuel →
      sig s.toks = ph ++ rest → TValue key ph d → ph = l :: tl → l.kind = .lbrace →
      Done s (ruleObject fuel s) rest) ∧
    (∀ s more (r : Token) rest xs, CleanSt s → KeyOk src key s.toks → 2 * s.toks.length + 1 ≤ fuel →
      sig s.toks = more ++ r :: rest → TMoreElems key more xs → r.kind = .rbrak →
      Done s (arrayLoop fuel s) (r :: rest)) ∧
    (∀ s ph rest d (l : Token) tl, CleanSt s → KeyOk src key s.toks → 2 * s.toks.length + 1 ≤ fuel →
      sig s.toks = ph ++ rest → TValue key ph d → ph = l :: tl → l.kind = .lbrak →
      Done s (ruleArray fuel s) rest) := by
  obtain ⟨hV, hM, hOL, hO, hAL, hA⟩ := rules_quiet key fuel
  have done : ∀ {s s' rest}, Quiet s s' rest → s'.diags = s.diags ∧ sig s'.toks = rest := fun q => ⟨q.same, q.sig⟩
  refine ⟨fun s ph rest d hc _ hf hs htv => done (hV s ph rest d hc hf hs htv),
    fun s k c ph rest v hc _ hf hs hk hc' htv => done (hM s k c ph rest v hc hf hs hk hc' htv),
    fun s more r rest ms hc _ hf hs hm hr => done (hOL s more r rest ms hc hf hs hm hr), ?_,
    fun s more r rest xs hc _ hf hs hm hr => done (hAL s more r rest xs hc hf hs hm hr), ?_⟩
  · rintro s _ rest d l tl hc - hf hs htv rfl hl
    exact done (hO s l tl rest d hc hf hs htv hl)
  · rintro s _ rest d l tl hc - hf hs htv rfl hl
    exact done (hA s l tl rest d hc hf hs htv hl)

end ShapeVerif
