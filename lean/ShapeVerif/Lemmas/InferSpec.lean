/-
What single-document inference computes: `inferDoc` on an array is the classification of the element
shapes (`classifyArray_cases`, four branches), on an object it is the sorted map that binds each
member name to the shape of its value (`inferDoc_obj_iff`). Well-formedness, plainness, independence
of member order and the agreement of the two classifications follow from these two; so do soundness
(`InferSound`) and the agreement of the two paths (`Props/C06`).
-/
import ShapeVerif.Lemmas.InferObjects
import ShapeVerif.Lemmas.Pointwise
import ShapeVerif.Lemmas.Induction
import ShapeVerif.Lemmas.ShapeClasses
import ShapeVerif.Lemmas.Admits
namespace ShapeVerif
open Shape Std

theorem inferDocList_ok_iff_pointwise : ∀ {xs : List Doc} {es : List Shape},
    inferDocList xs = .ok es ↔ Pointwise (fun x e => inferDoc x = .ok e) xs es
  | [], es => by cases es <;> simp [inferDocList, Pointwise]
  | x :: xs, [] => by
    simp only [inferDocList, Pointwise, iff_false]
    cases inferDoc x <;> cases inferDocList xs <;> simp
  | x :: xs, e :: es => by
    simp only [inferDocList, Pointwise, ← inferDocList_ok_iff_pointwise (xs := xs)]
    cases inferDoc x <;> cases inferDocList xs <;> simp

/-- `inferDocList` is `mapM inferDoc`: it succeeds with `es` exactly when every element succeeds with
its entry of `es`. In this form appending, repeating or splitting the list is `List.map` algebra. -/
theorem inferDocList_ok_iff_map {xs : List Doc} {es : List Shape} :
    inferDocList xs = .ok es ↔ xs.map inferDoc = es.map .ok :=
  inferDocList_ok_iff_pointwise.trans Pointwise.map_eq_iff

theorem inferDocList_append (h r : List Doc) : inferDocList (h ++ r) =
    match inferDocList h, inferDocList r with
    | .ok ss, .ok rs => .ok (ss ++ rs)
    | .ok _, .error e => .error e
    | .error e, _ => .error e := by
  induction h with
  | nil =>
    simp only [List.nil_append, inferDocList]
    cases inferDocList r <;> rfl
  | cons d h ih =>
    simp only [List.cons_append, inferDocList, ih]
    cases inferDoc d <;> cases inferDocList h <;> cases inferDocList r <;> rfl

theorem inferDocList_replicate {d : Doc} {sd : Shape} (hd : inferDoc d = .ok sd) :
    ∀ k, inferDocList (List.replicate k d) = .ok (List.replicate k sd) :=
  fun _ => inferDocList_ok_iff_map.2 (by simp [hd])

theorem inferDoc_arr_ok {xs : List Doc} {s : Shape} :
    inferDoc (.arr xs) = .ok s ↔ ∃ es, inferDocList xs = .ok es ∧ classifyArray es = .ok s := by
  simp only [inferDoc]
  cases inferDocList xs <;> simp

theorem inferDoc_obj_ok {ms : List (String × Doc)} {s : Shape} :
    inferDoc (.obj ms) = .ok s ↔ ∃ c, inferDocMembers ms [] = .ok c ∧ s = .object c false := by
  simp only [inferDoc]
  cases inferDocMembers ms [] <;> simp [eq_comm]

theorem allEqual_cons_iff : ∀ (a : Shape) (l : List Shape), allEqual (a :: l) = true ↔ ∀ x ∈ l, x = a
  | a, [] => by simp [allEqual]
  | a, b :: l => by
    rw [allEqual, Bool.and_eq_true, cmp_beq_eq_iff, allEqual_cons_iff b l, List.forall_mem_cons]
    constructor <;> (rintro ⟨rfl, h⟩; exact ⟨rfl, h⟩)

theorem length_of_not_allEqual {es : List Shape} (h : allEqual es = false) : es.length > 1 := by
  match es, h with
  | [], h | [_], h => simp [allEqual] at h
  | _ :: _ :: _, _ => simp

theorem classifyArray_of_allEqual {e : Shape} {rest : List Shape} (h : allEqual (e :: rest) = true) :
    classifyArray (e :: rest) = .ok (.array e false) := by
  simp [classifyArray, h]

theorem classifyArray_of_objects {c : Members} {o : Bool} {rest : List Shape}
    (hae : allEqual (.object c o :: rest) = false) (hobj : rest.all isObject = true) :
    classifyArray (.object c o :: rest) = .ok (.array (.object (mergeObjectElements c rest) false) false) := by
  have hl := length_of_not_allEqual hae
  have : (Shape.object c o :: rest).all isObject = true := by simp [isObject, hobj]
  unfold classifyArray
  simp only [hae, this, hl, Bool.and_false, Bool.false_eq_true, if_false, decide_true, Bool.and_self, if_true]

theorem classifyArray_of_mixed {es : List Shape} (hae : allEqual es = false) (hobj : es.all isObject = false) :
    classifyArray es = .ok (.tuple es false) := by
  have hl := length_of_not_allEqual hae
  unfold classifyArray
  simp only [hae, hobj, hl, Bool.and_false, Bool.false_eq_true, if_false, decide_true, if_true]

theorem classifyArray_cases (es : List Shape) :
    (es = [] ∧ classifyArray es = .ok (.array .null true)) ∨
    (∃ e rest, es = e :: rest ∧ allEqual es = true ∧ classifyArray es = .ok (.array e false)) ∨
    (∃ c o rest, es = .object c o :: rest ∧ allEqual es = false ∧ rest.all isObject = true ∧
      classifyArray es = .ok (.array (.object (mergeObjectElements c rest) false) false)) ∨
    (allEqual es = false ∧ es.all isObject = false ∧ classifyArray es = .ok (.tuple es false)) := by
  cases es with
  | nil => exact .inl ⟨rfl, rfl⟩
  | cons e rest =>
    by_cases hae : allEqual (e :: rest) = true
    · exact .inr (.inl ⟨e, rest, rfl, hae, classifyArray_of_allEqual hae⟩)
    have hae : allEqual (e :: rest) = false := eq_false_of_ne_true hae
    by_cases hobj : (e :: rest).all isObject = true
    · rw [List.all_cons, Bool.and_eq_true] at hobj
      obtain ⟨c, o, rfl⟩ := isObject_cases hobj.1
      exact .inr (.inr (.inl ⟨c, o, rest, rfl, hae, hobj.2, classifyArray_of_objects hae hobj.2⟩))
    · have hobj : (e :: rest).all isObject = false := eq_false_of_ne_true hobj
      exact .inr (.inr (.inr ⟨hae, hobj, classifyArray_of_mixed hae hobj⟩))

theorem inferDoc_notOneOf_objFlagOff {d : Doc} {s : Shape} (h : inferDoc d = .ok s) :
    s.isOneOf = false ∧ ∀ c o, s = .object c o → o = false := by
  cases d with
  | arr xs =>
    obtain ⟨es, _, hc⟩ := inferDoc_arr_ok.1 h
    rcases classifyArray_cases es with ⟨_, h'⟩ | ⟨_, _, _, _, h'⟩ | ⟨_, _, _, _, _, _, h'⟩ | ⟨_, _, h'⟩
    all_goals
      rw [h'] at hc
      cases hc
      exact ⟨rfl, fun _ _ e => by cases e⟩
  | obj ms =>
    obtain ⟨c, _, rfl⟩ := inferDoc_obj_ok.1 h
    exact ⟨rfl, fun _ _ e => (Shape.object.inj e).2.symm⟩
  | _ =>
    cases h
    exact ⟨rfl, fun _ _ e => by cases e⟩

theorem inferDoc_not_oneOf {d : Doc} {s : Shape} (h : inferDoc d = .ok s) : s.isOneOf = false :=
  (inferDoc_notOneOf_objFlagOff h).1

/-- Under a stored `OneOf` `addMember` asks for membership in its variants instead; inference never
stores one, and then a repeated name is accepted exactly with the shape it already has. -/
theorem addMember_ok_iff {c c' : Members} {k : String} {v : Shape} (hs : sortedKeys c = true)
    (hc : NoOneOfVals c) :
    addMember c k v = .ok c' ↔ (∀ s, mapGet k c = some s → s = v) ∧ c' = mapInsert k v c := by
  unfold addMember
  cases hg : mapGet k c with
  | none => simp [eq_comm]
  | some old =>
    have ho := hc.get hg
    have : (if (cmp v old != .eq) = true then Except.error (InferErr.invalidObjectValueType v old)
        else Except.ok c) = .ok c' ↔ (∀ s, some old = some s → s = v) ∧ c' = mapInsert k v c := by
      by_cases he : v = old
      · subst he
        simp [cmp_refl, mapInsert_of_get hs hg, eq_comm]
      · have : cmp v old ≠ .eq := fun h => he ((cmp_eq_iff _ _).1 h)
        simp [this, Ne.symm he]
    cases old with
    | oneOf vs o => cases ho
    | _ => exact this

/-- The loop invariant of `parse_member`, with the accumulator generalised: `acc`'s bindings survive, every
member name is bound to the shape of its value, and nothing else is bound. This lemma and
`inferDocMembers_of_spec` are the two directions of `inferDoc_obj_iff`. -/
theorem inferDocMembers_ok {ms : List (String × Doc)} {acc c : Members} (hs : sortedKeys acc = true)
    (hno : NoOneOfVals acc) (h : inferDocMembers ms acc = .ok c) :
    sortedKeys c = true ∧ (∀ k s, mapGet k acc = some s → mapGet k c = some s) ∧
    (∀ kv ∈ ms, ∃ sv, inferDoc kv.2 = .ok sv ∧ mapGet kv.1 c = some sv) ∧
    (∀ k s, mapGet k c = some s → mapGet k acc = some s ∨ hasMember k ms = true) := by
  induction ms generalizing acc with
  | nil =>
    cases h
    exact ⟨hs, fun _ _ h => h, nofun, fun _ _ h => .inl h⟩
  | cons m ms ih =>
    obtain ⟨k, v⟩ := m
    rw [inferDocMembers] at h
    cases hv : inferDoc v with
    | error e =>
      simp only [hv] at h
      cases h
    | ok sv =>
      simp only [hv] at h
      cases ha : addMember acc k sv with
      | error e =>
        simp only [ha] at h
        cases h
      | ok acc' =>
        simp only [ha] at h
        obtain ⟨hcompat, rfl⟩ := (addMember_ok_iff hs hno).1 ha
        obtain ⟨i0, i1, i2, i3⟩ := ih (sortedKeys_mapInsert hs) (hno.insert (inferDoc_not_oneOf hv)) h
        have hk : mapGet k c = some sv := i1 k sv (mapGet_mapInsert_self k sv acc)
        refine ⟨i0, fun k' s hg => ?_, List.forall_mem_cons.2 ⟨⟨sv, hv, hk⟩, i2⟩, fun k' s hg => ?_⟩
        · by_cases e : k' = k
          · subst e
            exact hcompat s hg ▸ hk
          · exact i1 k' s ((mapGet_mapInsert_of_ne e sv acc).trans hg)
        · rw [hasMember_cons]
          by_cases e : k' = k
          · subst e
            exact .inr (by rw [beq_self_eq_true, Bool.true_or])
          · rcases i3 k' s hg with h' | h'
            · exact .inl ((mapGet_mapInsert_of_ne e sv acc).symm.trans h')
            · exact .inr (by rw [h', Bool.or_true])

theorem inferDocMembers_of_spec {ms : List (String × Doc)} {acc c : Members} (hs : sortedKeys acc = true)
    (hno : NoOneOfVals acc) (hc : sortedKeys c = true)
    (h1 : ∀ k s, mapGet k acc = some s → mapGet k c = some s)
    (h2 : ∀ kv ∈ ms, ∃ sv, inferDoc kv.2 = .ok sv ∧ mapGet kv.1 c = some sv)
    (h3 : ∀ k s, mapGet k c = some s → mapGet k acc = some s ∨ hasMember k ms = true) :
    inferDocMembers ms acc = .ok c := by
  induction ms generalizing acc with
  | nil =>
    refine congrArg Except.ok (members_ext hs hc fun k => ?_)
    cases hg : mapGet k c with
    | some s => exact (h3 k s hg).resolve_right nofun
    | none =>
      cases hg' : mapGet k acc with
      | none => rfl
      | some s => exact (h1 k s hg').symm.trans hg
  | cons m ms ih =>
    obtain ⟨k, v⟩ := m
    obtain ⟨⟨sv, hv, hk⟩, h2⟩ := List.forall_mem_cons.1 h2
    have ha : addMember acc k sv = .ok (mapInsert k sv acc) :=
      (addMember_ok_iff hs hno).2 ⟨fun s hg => Option.some.inj ((h1 k s hg).symm.trans hk), rfl⟩
    simp only [inferDocMembers, hv, ha]
    refine ih (sortedKeys_mapInsert hs) (hno.insert (inferDoc_not_oneOf hv)) (fun k' s hg => ?_) h2
      (fun k' s hg => ?_)
    · by_cases e : k' = k
      · subst e
        exact hk.trans ((mapGet_mapInsert_self k' sv acc).symm.trans hg)
      · exact h1 k' s ((mapGet_mapInsert_of_ne e sv acc).symm.trans hg)
    · by_cases e : k' = k
      · subst e
        exact .inl ((mapGet_mapInsert_self k' sv acc).trans (hk.symm.trans hg))
      · have h' := h3 k' s hg
        rw [hasMember_cons, beq_false_of_ne (Ne.symm e), Bool.false_or] at h'
        exact h'.imp_left (mapGet_mapInsert_of_ne e sv acc).trans

/-- `parse_member` over the members of an object, by its result: the sorted map that binds exactly
the member names, each to the shape of its value; no such map exists when a value fails or a repeated
name carries two shapes. The right-hand side depends neither on the order of the members nor on the
values beyond the shapes inferred from them. -/
theorem inferDoc_obj_iff {ms : List (String × Doc)} {s : Shape} :
    inferDoc (.obj ms) = .ok s ↔ ∃ c, s = .object c false ∧ sortedKeys c = true ∧
      (∀ kv ∈ ms, ∃ sv, inferDoc kv.2 = .ok sv ∧ mapGet kv.1 c = some sv) ∧
      (∀ k sv, mapGet k c = some sv → hasMember k ms = true) := by
  have nil : NoOneOfVals [] := nofun
  rw [inferDoc_obj_ok]
  constructor
  · rintro ⟨c, h, rfl⟩
    obtain ⟨h0, _, h2, h3⟩ := inferDocMembers_ok rfl nil h
    exact ⟨c, rfl, h0, h2, fun k sv hg => (h3 k sv hg).resolve_left nofun⟩
  · rintro ⟨c, rfl, h0, h2, h3⟩
    exact ⟨c, inferDocMembers_of_spec rfl nil h0 nofun h2 (fun k sv hg => .inr (h3 k sv hg)), rfl⟩

/-- **member-order independence**: an object whose members are listed in another order is given the
same shape (including objects that repeat a member name with equal value shapes) -/
theorem infer_member_order {ms ms' : List (String × Doc)} (hp : ms.Perm ms') {s : Shape}
    (h : inferDoc (.obj ms) = .ok s) : inferDoc (.obj ms') = .ok s := by
  rw [inferDoc_obj_iff] at h ⊢
  obtain ⟨c, e, hs, hm, ho⟩ := h
  refine ⟨c, e, hs, fun kv hkv => hm kv (hp.mem_iff.2 hkv), fun k sv hg => ?_⟩
  have := ho k sv hg
  unfold hasMember at this ⊢
  rwa [← hp.any_eq]

theorem inferDoc_obj_mem {ms : List (String × Doc)} {c : Members} {o : Bool}
    (h : inferDoc (.obj ms) = .ok (.object c o)) {kv : String × Shape} (hkv : kv ∈ c) :
    ∃ x, (kv.1, x) ∈ ms ∧ inferDoc x = .ok kv.2 := by
  obtain ⟨c', e, hs, hm, ho⟩ := inferDoc_obj_iff.1 h
  cases e
  have hg := mapGet_eq_some_of_mem hs hkv
  obtain ⟨⟨k', x⟩, hx, hk⟩ := List.any_eq_true.1 (ho _ _ hg)
  obtain rfl : k' = kv.1 := by simpa using hk
  obtain ⟨sv, hsv, hg'⟩ := hm _ hx
  exact ⟨x, hx, by rw [hsv, ← Option.some.inj (hg'.symm.trans hg)]⟩

theorem noOneOfValues_of_plain {es : List Shape} (h : ∀ e ∈ es, e.plain = true) : noOneOfValues es := by
  rintro _ he c o rfl kv hkv
  exact plain_not_oneOf (plainMembers_iff.1 (h _ he) kv hkv)

theorem infer_wf_plain : ∀ (d : Doc) {s : Shape}, inferDoc d = .ok s → s.wf = true ∧ s.plain = true := by
  intro d
  induction d with
  | arr xs ih =>
    intro s h
    obtain ⟨es, hes, hc⟩ := inferDoc_arr_ok.1 h
    have hall : ∀ e ∈ es, e.wf = true ∧ e.plain = true := fun e he =>
      let ⟨x, hx, hxe⟩ := (inferDocList_ok_iff_pointwise.1 hes).mem_right e he
      ih x hx hxe
    rcases classifyArray_cases es with ⟨_, h'⟩ | ⟨e, rest, rfl, _, h'⟩ | ⟨c, o, rest, rfl, _, hobj, h'⟩ |
      ⟨_, _, h'⟩
    all_goals
      rw [h'] at hc
      cases hc
    · exact ⟨rfl, rfl⟩
    · exact hall e (by simp)
    · -- the merged content is read through `specLookup`, which needs the elements' contents free of
      -- `OneOf`: this is why well-formedness cannot be proved without plainness
      have hc := hall (.object c o) (by simp)
      simp only [Shape.wf, Shape.plain, Bool.and_eq_true] at hc ⊢
      have hM := sortedKeys_mergeObjectElements rest hc.1.1
      have hval : ∀ kv ∈ mergeObjectElements c rest, kv.2.wf = true ∧ kv.2.plain = true := by
        intro kv hkv
        have hg := mapGet_eq_some_of_mem hM hkv
        rw [mapGet_mergeObjectElements _ c o rest hobj (noOneOfValues_of_plain fun e he => (hall e he).2)] at hg
        obtain ⟨c', o', s, hm, hs, hv⟩ := specLookup_some hg
        have := hall _ hm
        simp only [Shape.wf, Shape.plain, Bool.and_eq_true] at this
        have := And.intro (wfMembers_iff.1 this.1.2 _ hs) (plainMembers_iff.1 this.2 _ hs)
        rcases hv with hv | hv <;> rw [hv]
        · exact this
        · exact ⟨wf_asOptional this.1, (plain_withOptional true s).trans this.2⟩
      exact ⟨⟨hM, wfMembers_iff.2 fun kv hkv => (hval kv hkv).1⟩, plainMembers_iff.2 fun kv hkv => (hval kv hkv).2⟩
    · exact ⟨wfList_iff.2 fun e he => (hall e he).1, plainList_iff.2 fun e he => (hall e he).2⟩
  | obj ms ih =>
    intro s h
    obtain ⟨c, rfl, hs, -⟩ := inferDoc_obj_iff.1 h
    have hval : ∀ kv ∈ c, kv.2.wf = true ∧ kv.2.plain = true := fun kv hkv =>
      let ⟨x, hx, hxe⟩ := inferDoc_obj_mem h hkv
      ih _ hx hxe
    simp only [Shape.wf, Shape.plain, Bool.and_eq_true]
    exact ⟨⟨hs, wfMembers_iff.2 fun kv hkv => (hval kv hkv).1⟩, plainMembers_iff.2 fun kv hkv => (hval kv hkv).2⟩
  | _ =>
    intro s h
    cases h
    exact ⟨rfl, rfl⟩

theorem infer_wf {d : Doc} {s : Shape} (h : inferDoc d = .ok s) : s.wf = true := (infer_wf_plain d h).1

theorem infer_plain {d : Doc} {s : Shape} (h : inferDoc d = .ok s) : s.plain = true := (infer_wf_plain d h).2

/-- bundled because these are the three hypotheses of `classify_agree` -/
theorem inferDocList_wf_noOneOfValues_flagOff {xs : List Doc} {es : List Shape} (h : inferDocList xs = .ok es) :
    wfList es = true ∧ noOneOfValues es ∧ ∀ c o, Shape.object c o ∈ es → o = false := by
  have pw := inferDocList_ok_iff_pointwise.1 h
  refine ⟨wfList_iff.2 fun e he => ?_, noOneOfValues_of_plain fun e he => ?_, fun c o he => ?_⟩ <;>
    obtain ⟨x, _, hxe⟩ := pw.mem_right _ he
  · exact infer_wf hxe
  · exact infer_plain hxe
  · exact (inferDoc_notOneOf_objFlagOff hxe).2 c o rfl

/-- the value path's classification tests its branches in another order but agrees on inferred shapes
(whose object flags are off) -/
theorem classify_agree (es : List Shape) (hwf : wfList es = true) (hno : noOneOfValues es)
    (hflag : ∀ c o, Shape.object c o ∈ es → o = false) :
    classifyArray es = .ok (classifyArrayV es) := by
  rcases classifyArray_cases es with ⟨rfl, h⟩ | ⟨e, rest, rfl, hae, h⟩ | ⟨c, o, rest, rfl, hae, hobj, h⟩ |
    ⟨hae, hobj, h⟩ <;> rw [h] <;> unfold classifyArrayV
  · rfl
  · by_cases hV : (decide ((e :: rest).length > 1) && (e :: rest).all isObject) = true
    · -- the value path merges the elements, which are all one and the same object
      rw [if_pos hV]
      rw [Bool.and_eq_true, List.all_cons, Bool.and_eq_true] at hV
      obtain ⟨c, o, rfl⟩ := isObject_cases hV.2.1
      obtain rfl := hflag c o (by simp)
      simp only [wfList, Shape.wf, Bool.and_eq_true] at hwf
      have : mergeObjectElements c rest = c :=
        members_ext (sortedKeys_mergeObjectElements rest hwf.1.1) hwf.1.1 fun k => by
          rw [mapGet_mergeObjectElements k c false rest hV.2.2 hno,
            specLookup_same ((allEqual_cons_iff _ _).1 hae)]
      simp only [this]
    · rw [if_neg hV]
      simp [hae]
  · have hl : 0 < rest.length := by simpa using length_of_not_allEqual hae
    rw [if_pos (by simp [hl, isObject, hobj])]
  · rw [if_neg (by simp [hobj]), if_neg (by simp [hae]), if_pos (length_of_not_allEqual hae)]

end ShapeVerif
