/-
The reference semantics `admits`. The flag only decides about `null` (`admits_withOptional`), a
`OneOf` is a `List.any` over its variants, and an object is read key by key through `mapGet`, which
makes it monotone in its members (`admits_object_mono`).
-/
import ShapeVerif.Lemmas.Containers
import ShapeVerif.Lemmas.ShapeClasses
import ShapeVerif.Lemmas.Pointwise
import ShapeVerif.Ref.Sem
namespace ShapeVerif
open Shape

theorem absentOk_iff {c : Members} {ms : List (String × Doc)} :
    absentOk c ms = true ↔ ∀ kv ∈ c, hasMember kv.1 ms = true ∨ admits kv.2 .null = true := by
  induction c with
  | nil => simp [absentOk]
  | cons kv c ih => rw [absentOk, Bool.and_eq_true, Bool.or_eq_true, ih, List.forall_mem_cons]

theorem hasMember_cons (k' k : String) (v : Doc) (ms : List (String × Doc)) :
    hasMember k' ((k, v) :: ms) = (k == k' || hasMember k' ms) := rfl

theorem any_congr_mem {α : Type} {l l' : List α} (h : ∀ x, x ∈ l ↔ x ∈ l') (p : α → Bool) :
    l.any p = l'.any p := by
  rw [Bool.eq_iff_iff, List.any_eq_true, List.any_eq_true]
  simp only [h]

theorem admitsAny_eq_any (vs : List Shape) (d : Doc) : admitsAny vs d = vs.any (fun v => admits v d) :=
  any_of_rec (f := (admitsAny · d)) rfl (fun _ _ => rfl) vs

theorem admitsAny_iff {vs : List Shape} {d : Doc} :
    admitsAny vs d = true ↔ ∃ v ∈ vs, admits v d = true := by
  rw [admitsAny_eq_any, List.any_eq_true]

theorem Doc.isNull_iff {d : Doc} : d.isNull = true ↔ d = .null := by cases d <;> simp [Doc.isNull]

theorem admits_null_iff {d : Doc} : admits .null d = true ↔ d = .null := Doc.isNull_iff

/-- The flag only decides about `null`: every other document is admitted or not by the shape with
the flag off. The facts about `asOptional`, `asNonOptional` and `admits` below are instances. -/
theorem admits_withOptional (q : Bool) (s : Shape) (x : Doc) :
    admits (withOptional q s) x = (admits s.asNonOptional x || ((q || s.isNull) && x.isNull)) := by
  cases s <;> cases x <;> simp [admits, asNonOptional, withOptional, Doc.isNull, isNull]

theorem admits_withOptional_or (k : Shape) (o p : Bool) (x : Doc) :
    admits (withOptional (o || p) k) x = (admits (withOptional o k) x || admits (withOptional p k) x) := by
  simp only [admits_withOptional]
  generalize admits k.asNonOptional x = A, k.isNull = n, x.isNull = z
  revert o p A n z
  decide

theorem admits_eq_asNonOptional (s : Shape) (x : Doc) :
    admits s x = (admits s.asNonOptional x || (s.isOptional && x.isNull)) := by
  have := admits_withOptional s.isOptional s x
  rw [withOptional_self] at this
  rw [this]
  cases s <;> simp [isOptional, isNull]

theorem admits_asOptional_eq (s : Shape) (x : Doc) : admits s.asOptional x = (admits s x || x.isNull) := by
  rw [asOptional, admits_withOptional, admits_eq_asNonOptional s x]
  cases s.isOptional <;> cases x.isNull <;> simp

theorem admits_null_of_isOptional {s : Shape} (h : s.isOptional = true) : admits s .null = true := by
  rw [admits_eq_asNonOptional, h]
  simp [Doc.isNull]

theorem admits_null_null : admits .null .null = true := rfl

theorem admits_null_eq_isOptional {s : Shape} (h : s.isOneOf = false) : admits s .null = s.isOptional := by
  cases s with
  | oneOf => cases h
  | _ => simp [admits, isOptional, Doc.isNull]

theorem admits_null_simple {s : Shape} (h : simple s = true) : admits s .null = s.isOptional :=
  admits_null_eq_isOptional (simple_not_oneOf h)

theorem admits_asOptional {s : Shape} {d : Doc} (h : admits s d = true) :
    admits s.asOptional d = true := by
  rw [admits_asOptional_eq, h]
  rfl

theorem admits_asOptional_null (s : Shape) : admits s.asOptional .null = true := by
  rw [admits_asOptional_eq]
  simp [Doc.isNull]

theorem admits_asNonOptional {s : Shape} {d : Doc} (h : admits s d = true) (hd : d.isNull = false) :
    admits s.asNonOptional d = true := by
  simpa [admits_eq_asNonOptional s, hd] using h

theorem admits_of_asNonOptional {s : Shape} {d : Doc} (h : admits s.asNonOptional d = true) :
    admits s d = true := by
  rw [admits_eq_asNonOptional, h]
  rfl

theorem admits_of_withOptional {s : Shape} {o : Bool} {d : Doc} (h : admits (withOptional o s) d = true)
    (ho : o = true → s.isOptional = true) : admits s d = true := by
  cases o with
  | false => exact admits_of_asNonOptional h
  | true =>
    have e : withOptional true s = s := by rw [← ho rfl]; exact withOptional_self s
    rwa [e] at h

theorem admits_withOptional_of_ne_null {s : Shape} {d : Doc} (q : Bool) (h : admits s d = true)
    (hd : d.isNull = false) : admits (withOptional q s) d = true := by
  have := admits_asNonOptional h hd
  cases q with
  | false => exact this
  | true => exact admits_of_asNonOptional (s := withOptional true s) (by rwa [asNonOptional, withOptional_withOptional])

theorem admits_array_arr (t : Shape) (o : Bool) (xs : List Doc) :
    admits (.array t o) (.arr xs) = xs.all (fun x => admits t x) := rfl
theorem admits_array_null (t : Shape) (o : Bool) : admits (.array t o) .null = o := rfl
theorem admits_tuple_arr (es : List Shape) (o : Bool) (xs : List Doc) :
    admits (.tuple es o) (.arr xs) = admitsZip es xs := rfl
theorem admits_tuple_null (es : List Shape) (o : Bool) : admits (.tuple es o) .null = o := rfl
theorem admits_object_obj (c : Members) (o : Bool) (ms : List (String × Doc)) :
    admits (.object c o) (.obj ms) = (ms.all (fun kv => admitsKey kv.1 kv.2 c) && absentOk c ms) := rfl
theorem admits_object_null (c : Members) (o : Bool) : admits (.object c o) .null = o := rfl
theorem admits_oneOf (vs : List Shape) (o : Bool) (d : Doc) :
    admits (.oneOf vs o) d = (admitsAny vs d || (o && d.isNull)) := rfl

theorem admits_oneOf_false (V : List Shape) (y : Doc) : admits (.oneOf V false) y = admitsAny V y := by
  rw [admits_oneOf, Bool.false_and, Bool.or_false]

theorem admits_oneOf_of_mem {vs : List Shape} {o : Bool} {v : Shape} {d : Doc} (hv : v ∈ vs)
    (h : admits v d = true) : admits (.oneOf vs o) d = true := by
  rw [admits_oneOf, admitsAny_iff.2 ⟨v, hv, h⟩]
  rfl

theorem admits_array_cases {t : Shape} {o : Bool} {d : Doc} (h : admits (.array t o) d = true) :
    (d = .null ∧ o = true) ∨ ∃ xs, d = .arr xs ∧ (xs.all fun x => admits t x) = true := by
  cases d with
  | null => exact Or.inl ⟨rfl, h⟩
  | arr xs => exact Or.inr ⟨xs, rfl, h⟩
  | _ => contradiction
theorem admits_tuple_cases {es : List Shape} {o : Bool} {d : Doc} (h : admits (.tuple es o) d = true) :
    (d = .null ∧ o = true) ∨ ∃ xs, d = .arr xs ∧ admitsZip es xs = true := by
  cases d with
  | null => exact Or.inl ⟨rfl, h⟩
  | arr xs => exact Or.inr ⟨xs, rfl, h⟩
  | _ => contradiction
theorem admits_object_cases {c : Members} {o : Bool} {d : Doc} (h : admits (.object c o) d = true) :
    (d = .null ∧ o = true) ∨ ∃ ms, d = .obj ms ∧
      (ms.all (fun kv => admitsKey kv.1 kv.2 c)) = true ∧ absentOk c ms = true := by
  cases d with
  | null => exact Or.inl ⟨rfl, h⟩
  | obj ms => exact Or.inr ⟨ms, rfl, Bool.and_eq_true_iff.1 h⟩
  | _ => contradiction

theorem admits_array_mono {t u : Shape} {o q : Bool} {x : Doc} (hu : ∀ y, admits t y = true → admits u y = true)
    (hq : o = true → q = true) (h : admits (.array t o) x = true) : admits (.array u q) x = true := by
  rcases admits_array_cases h with ⟨rfl, hn⟩ | ⟨xs, rfl, hxs⟩
  · rw [admits_array_null]
    exact hq hn
  · rw [admits_array_arr, List.all_eq_true] at *
    exact fun y hy => hu y (hxs y hy)

theorem admitsZip_iff : ∀ {es : List Shape} {xs : List Doc},
    admitsZip es xs = true ↔ Pointwise (fun e x => admits e x = true) es xs
  | [], [] => by simp [admitsZip, Pointwise]
  | [], _ :: _ => by simp [admitsZip, Pointwise]
  | _ :: _, [] => by simp [admitsZip, Pointwise]
  | e :: es, x :: xs => by simp only [admitsZip, Pointwise, Bool.and_eq_true, admitsZip_iff (es := es)]

theorem admits_tuple_to_array {es : List Shape} {u : Shape} {o q : Bool} {x : Doc}
    (hu : ∀ e ∈ es, ∀ y, admits e y = true → admits u y = true) (hq : o = true → q = true)
    (h : admits (.tuple es o) x = true) : admits (.array u q) x = true := by
  rcases admits_tuple_cases h with ⟨rfl, hn⟩ | ⟨xs, rfl, hxs⟩
  · rw [admits_array_null]
    exact hq hn
  · rw [admits_array_arr, List.all_eq_true]
    intro y hy
    obtain ⟨e, he, hey⟩ := (admitsZip_iff.1 hxs).mem_right y hy
    exact hu e he y hey

theorem admitsKey_eq_mapGet (k : String) (x : Doc) (c : Members) :
    admitsKey k x c = match mapGet k c with
      | some s => admits s x
      | none => false := by
  induction c with
  | nil => rfl
  | cons a c ih =>
    obtain ⟨k', v⟩ := a
    simp only [admitsKey, mapGet_cons]
    split <;> simp [ih]

theorem absentOk_iff_mapGet {c : Members} {ms : List (String × Doc)} (hs : sortedKeys c = true) :
    absentOk c ms = true ↔
      ∀ k s, mapGet k c = some s → hasMember k ms = true ∨ admits s .null = true := by
  rw [absentOk_iff]
  constructor
  · exact fun h k s hk => h (k, s) (mem_of_mapGet hk)
  · exact fun h kv hkv => h kv.1 kv.2 (mapGet_eq_some_of_mem hs hkv)

theorem admitsKey_of_mem {c : Members} {k : String} {s : Shape} {x : Doc}
    (hs : sortedKeys c = true) (hm : (k, s) ∈ c) : admitsKey k x c = admits s x := by
  rw [admitsKey_eq_mapGet, mapGet_eq_some_of_mem hs hm]

theorem admitsKey_true {c : Members} {k : String} {x : Doc} (h : admitsKey k x c = true) :
    ∃ s, (k, s) ∈ c ∧ admits s x = true := by
  rw [admitsKey_eq_mapGet] at h
  cases hg : mapGet k c with
  | none => simp [hg] at h
  | some s => exact ⟨s, mem_of_mapGet hg, by simpa [hg] using h⟩

theorem admits_object_mono {c c' : Members} {o o' : Bool} (hc' : sortedKeys c' = true) (ho : o = true → o' = true)
    (hk : ∀ k, match mapGet k c, mapGet k c' with
      | some v, some v' => ∀ d, admits v d = true → admits v' d = true
      | none, some v' => admits v' .null = true
      | some _, none => False
      | none, none => True)
    {x : Doc} (h : admits (.object c o) x = true) : admits (.object c' o') x = true := by
  cases x with
  | null => exact ho h
  | obj ms =>
    simp only [admits_object_obj, Bool.and_eq_true, List.all_eq_true, admitsKey_eq_mapGet,
      absentOk_iff_mapGet hc'] at h ⊢
    refine ⟨fun kv hkv => ?_, fun k v' hv' => ?_⟩
    · have h1 := h.1 kv hkv
      have := hk kv.1
      cases hv : mapGet kv.1 c <;> cases hv' : mapGet kv.1 c' <;> simp only [hv, hv', Bool.false_eq_true] at h1 this ⊢
      exact this _ h1
    · have := hk k
      rw [hv'] at this
      cases hv : mapGet k c <;> simp only [hv] at this
      · exact .inr this
      · exact (absentOk_iff.1 h.2 (k, _) (mem_of_mapGet hv)).imp_right (this _)
  | _ => contradiction

end ShapeVerif
