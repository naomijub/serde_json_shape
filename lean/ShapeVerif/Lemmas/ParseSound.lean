/-
Soundness of the recovering parser in clean mode: a run that reports nothing has consumed a phrase of
the token grammar and built a node that `parse_cst` evaluates to `inferDoc` of the phrase's document.
The walk over the six rule functions splits a quiet run into quiet steps (`quiet_seq`), summarises each
as part of a list (`Run`) and leaves the building of the nodes to lemmas that know nothing of fuel
(`GV.array`, `GV.object`, `GM.of_steps`).
-/
import ShapeVerif.Lemmas.ParseClean
import ShapeVerif.Lemmas.CstEval
import ShapeVerif.Ref.TokenGrammar
namespace ShapeVerif
open Shape

/-- diagnostics are only ever pushed: what a step leaves ends with what it found -/
abbrev GrowsR (s : PState) (r : PState × List Item) : Prop := s.diags <:+ r.1.diags

theorem grows_trace : Trace GrowsR where
  skip _ := List.suffix_rfl
  seq := List.IsSuffix.trans
  close _ h := h
  error s := by
    unfold PState.error
    split
    · exact List.suffix_rfl
    · exact List.suffix_cons _ _
  advance s e := by unfold PState.advance; split <;> exact List.suffix_rfl
  cooldown _ := List.suffix_rfl

theorem quiet_seq {f g : Step} (hf : Always GrowsR f) (hg : Always GrowsR g) {s : PState}
    (h : ((f.seq g) s).1.diags = s.diags) : (f s).1.diags = s.diags ∧ (g (f s).1).1.diags = (f s).1.diags :=
  have e1 := ((hf s).eq_of_length_le (Nat.le_trans (hg _).length_le (Nat.le_of_eq (congrArg List.length h)))).symm
  ⟨e1, e1 ▸ h⟩

/-- `Cst::close` on what a clean run emits: `n` is not flagged, so the trailing run of skipped items that
floats to the parent is exactly `sk` -/
theorem closeRule_spec (r : Rule) (pre : List Item) (n : Node) (sk : List Item) (hsk : SkipItems sk) :
    closeRule r (pre ++ ⟨n, false⟩ :: sk) =
      (⟨.rule r ((pre ++ [(⟨n, false⟩ : Item)]).map (fun i : Item => i.node)), false⟩ : Item) :: sk := by
  unfold closeRule
  have hrev : (pre ++ ⟨n, false⟩ :: sk).reverse = sk.reverse ++ ⟨n, false⟩ :: pre.reverse := by simp
  have hs : ∀ a ∈ sk.reverse, a.skip = true := fun a ha => (hsk a (List.mem_reverse.1 ha)).1
  have hn : ¬(⟨n, false⟩ : Item).skip = true := Bool.false_ne_true
  simp only [hrev, List.takeWhile_append_of_pos hs, List.dropWhile_append_of_pos hs, List.takeWhile_cons_of_neg hn,
    List.dropWhile_cons_of_neg hn, List.append_nil, List.reverse_reverse, List.reverse_cons]

/-- the nodes of skipped items are whitespace tokens: what each consumer of the tree makes of one -/
theorem SkipItems.node {sk : List Item} (h : SkipItems sk) {n : Node} (hn : n ∈ sk.map (·.node)) :
    isWsNode n = true ∧ isErrorNode n = false ∧ isArrayPunct n = true ∧ isMemberNode n = false ∧
      isValueRule n = false := by
  obtain ⟨i, hi, rfl⟩ := List.mem_map.1 hn
  obtain ⟨_, k, a, b, e, hk⟩ := h i hi
  rw [e]
  rcases hk with rfl | rfl <;> exact ⟨rfl, rfl, rfl, rfl, rfl⟩

theorem skipItems_noErr {sk : List Item} (h : SkipItems sk) : NoErrNodes (sk.map (·.node)) :=
  fun _ hn => (h.node hn).2.1

theorem skipItems_notValue {sk : List Item} (h : SkipItems sk) : ∀ n ∈ sk.map (·.node), isValueRule n = false :=
  fun _ hn => (h.node hn).2.2.2.2

theorem skipItems_punct {src : List Char} {sk : List Item} (h : SkipItems sk) : ElemsRep src (sk.map (·.node)) [] := by
  induction sk with
  | nil => exact .nil
  | cons i sk ih => exact .punct (h.node (by simp)).2.2.1 (ih fun j hj => h j (by simp [hj]))

theorem skipItems_other {src : List Char} {sk : List Item} (h : SkipItems sk) : MembersRep src (sk.map (·.node)) [] := by
  induction sk with
  | nil => exact .nil
  | cons i sk ih => exact .other (h.node (by simp)).2.2.2.1 (ih fun j hj => h j (by simp [hj]))

theorem yield_skipItems {sk : List Item} (h : SkipItems sk) : sig (yieldItems sk) = [] := by
  induction sk with
  | nil => rfl
  | cons i sk ih =>
    obtain ⟨_, k, a, b, e, hk⟩ := h i (by simp)
    rw [yieldItems_cons, e, leaves, List.singleton_append,
      sig_cons_skip (t := ⟨k, a, b⟩) (by rcases hk with rfl | rfl <;> rfl)]
    exact ih (fun j hj => h j (by simp [hj]))

/-- the rest of a member list / element list after the first item -/
inductive TMore (key : Token → String) : List Token → List (String × Doc) → Prop
  | nil : TMore key [] []
  | cons {m k c : Token} {ts rest : List Token} {v : Doc} {ms : List (String × Doc)} :
      m.kind = .comma → k.kind = .string → c.kind = .colon → TValue key ts v → TMore key rest ms →
      TMore key (m :: k :: c :: ts ++ rest) ((key k, v) :: ms)

inductive TMoreElems (key : Token → String) : List Token → List Doc → Prop
  | nil : TMoreElems key [] []
  | cons {m : Token} {ts rest : List Token} {x : Doc} {xs : List Doc} :
      m.kind = .comma → TValue key ts x → TMoreElems key rest xs → TMoreElems key (m :: ts ++ rest) (x :: xs)

theorem members_of_more {key : Token → String} {k c : Token} {ts rest : List Token} {v : Doc}
    {ms : List (String × Doc)} (hk : k.kind = .string) (hc : c.kind = .colon) (hv : TValue key ts v)
    (hm : TMore key rest ms) : TMembers key (k :: c :: ts ++ rest) ((key k, v) :: ms) := by
  induction hm generalizing k c ts v with
  | nil => simpa using TMembers.one hk hc hv
  | cons hm' hk' hc' hv' _ ih => exact TMembers.cons hk hc hm' hv (ih hk' hc' hv')

theorem elems_of_more {key : Token → String} {ts rest : List Token} {x : Doc} {xs : List Doc}
    (hv : TValue key ts x) (hm : TMoreElems key rest xs) : TElems key (ts ++ rest) (x :: xs) := by
  induction hm generalizing ts x with
  | nil => simpa using TElems.one hv
  | cons hm' hv' _ ih => exact TElems.cons hm' hv (ih hv')

section
variable (src : List Char) (key : Token → String)

/-- the `String` tokens can be sliced and `key` reads their names off the text. Needed only to build
`MemberRep`; it is why `src` and `key` appear in the parser theorems. -/
def KeyOk (ts : List Token) : Prop :=
  ∀ t ∈ ts, t.kind = .string →
    ∃ txt, sliceBytes src t.start t.stop = some txt ∧ 2 ≤ txt.length ∧ key t = memberName txt

/-- `G…`: what a quiet run of a rule function from a clean state **g**uarantees — `V` for a value
(`ruleValue`, `ruleObject`, `ruleArray`), `M` a member, `OL` / `AL` the object / array loop. Each
carries: the state after is clean, the phrase of the grammar consumed (`sig s.toks = ph ++ sig r.1.toks`),
and the node(s) emitted with what `parse_cst` makes of them. -/
structure GV (s : PState) (r : PState × List Item) : Prop where
  clean : CleanSt r.1
  node : ∃ n sk d ph, r.2 = ⟨n, false⟩ :: sk ∧ SkipItems sk ∧ isValueRule n = true ∧ Evals src n d ∧
    sig s.toks = ph ++ sig r.1.toks ∧ TValue key ph d
  less : r.1.toks.length < s.toks.length

structure GM (s : PState) (r : PState × List Item) : Prop where
  clean : CleanSt r.1
  node : ∃ cs sk v ph kt ct, r.2 = ⟨.rule .member cs, false⟩ :: sk ∧ SkipItems sk ∧
    MemberRep src cs (key kt) v ∧ kt.kind = .string ∧ ct.kind = .colon ∧
    sig s.toks = kt :: ct :: ph ++ sig r.1.toks ∧ TValue key ph v
  less : r.1.toks.length < s.toks.length

structure GOL (s : PState) (r : PState × List Item) : Prop where
  clean : CleanSt r.1
  node : ∃ ms ph, NoErrNodes (r.2.map (·.node)) ∧ MembersRep src (r.2.map (·.node)) ms ∧ TMore key ph ms ∧
    sig s.toks = ph ++ sig r.1.toks
  le : r.1.toks.length ≤ s.toks.length

structure GAL (s : PState) (r : PState × List Item) : Prop where
  clean : CleanSt r.1
  node : ∃ xs ph, NoErrNodes (r.2.map (·.node)) ∧ ElemsRep src (r.2.map (·.node)) xs ∧ TMoreElems key ph xs ∧
    sig s.toks = ph ++ sig r.1.toks
  le : r.1.toks.length ≤ s.toks.length
end

theorem valueRule_facts {n : Node} (h : isValueRule n = true) :
    isErrorNode n = false ∧ isArrayPunct n = false := by
  cases n with
  | tok k a b => simp [isValueRule] at h
  | rule r cs => cases r <;> simp [isValueRule] at h <;> exact ⟨rfl, rfl⟩

theorem KeyOk.of_subset {src : List Char} {key : Token → String} {a b : List Token} (h : KeyOk src key a)
    (hs : ∀ t ∈ b, t ∈ a) : KeyOk src key b := fun t ht => h t (hs t ht)

theorem lit_kinds {k : Tok} (h : isLiteralStart k = true) :
    k = .false_ ∨ k = .true_ ∨ k = .null_ ∨ k = .number ∨ k = .string := by
  revert h; cases k <;> decide

theorem litStep_sound {src : List Char} {key : Token → String} {s : PState} {k : Tok} (h : CleanSt s)
    (hl : isLiteralStart k = true) (hd : (litStep k s).1.diags = s.diags) : GV src key s (litStep k s) := by
  have hd' : (s.expect k).1.diags = s.diags := by unfold litStep at hd; split at hd <;> exact hd
  have st := expect_step h k (by rintro rfl; cases hl) hd'
  obtain ⟨t, ts, sk, -, htk, hi, hsk, hsig⟩ := st.tok
  rw [htk] at hi
  have lit := closeRule_spec .literal [] (.tok k t.start t.stop) sk hsk
  have bool := closeRule_spec .boolean [] (.tok k t.start t.stop) sk hsk
  have lit' := closeRule_spec .literal [] (.rule .boolean [.tok k t.start t.stop]) sk hsk
  simp only [List.nil_append, List.map_cons, List.map_nil] at lit bool lit'
  have fin : ∀ n d, isValueRule n = true → Evals src n d → TValue key [t] d →
      GV src key s ((s.expect k).1, ⟨n, false⟩ :: sk) :=
    fun n d hn he htv => ⟨st.clean, ⟨n, sk, d, [t], rfl, hsk, hn, he, hsig, htv⟩, st.less⟩
  have e1 : (Tok.null_ == Tok.false_ || Tok.null_ == Tok.true_) = false := rfl
  have e2 : (Tok.number == Tok.false_ || Tok.number == Tok.true_) = false := rfl
  have e3 : (Tok.string == Tok.false_ || Tok.string == Tok.true_) = false := rfl
  rcases lit_kinds hl with rfl | rfl | rfl | rfl | rfl <;>
    simp only [litStep, Step.close, hi, bool, lit, lit', beq_self_eq_true, Bool.or_true, Bool.true_or, if_true,
      e1, e2, e3, Bool.false_eq_true, if_false]
  · exact fin _ _ rfl (evals_literal rfl rfl) (.fls htk)
  · exact fin _ _ rfl (evals_literal rfl rfl) (.tru htk)
  · exact fin _ _ rfl (evals_literal rfl rfl) (.null htk)
  · exact fin _ _ rfl (evals_literal rfl rfl) (.num htk)
  · exact fin _ _ rfl (evals_literal rfl rfl) (.str htk)

theorem advanceWithError_changes {s : PState} (h : CleanSt s) : s.advanceWithError.1.diags ≠ s.diags := by
  have : s.advanceWithError.1.diags = s.error.diags := by
    unfold PState.advanceWithError PState.advance
    simp only
    split <;> rfl
  rw [this]
  exact error_changes h

theorem tok_noErr {t : Token} {k : Tok} (hk : t.kind = k) (hne : k ≠ .error) :
    isErrorNode (.tok t.kind t.start t.stop) = false := by
  rw [hk]
  cases k with
  | error => exact absurd rfl hne
  | _ => rfl

theorem KeyOk.step {src : List Char} {key : Token → String} {f : Step} (hy : Yields f) {s : PState}
    (hk : KeyOk src key s.toks) : KeyOk src key (f s).1.toks :=
  hk.of_subset fun _ ht => hy s ▸ List.mem_append_right _ ht

/-- a quiet run from a clean state as part of a list: it consumed `ph`, and its nodes, none of them
an error node, stand for the items `xs` -/
structure Run {δ : Type} (Rep : List Node → List δ → Prop) (s : PState) (r : PState × List Item)
    (ph : List Token) (xs : List δ) : Prop where
  clean : CleanSt r.1
  noErr : NoErrNodes (r.2.map (·.node))
  rep : Rep (r.2.map (·.node)) xs
  sig : sig s.toks = ph ++ sig r.1.toks
  le : r.1.toks.length ≤ s.toks.length

theorem Run.seq {δ : Type} {Rep : List Node → List δ → Prop}
    (app : ∀ {a b x y}, Rep a x → Rep b y → Rep (a ++ b) (x ++ y)) {s : PState} {r1 r2 : PState × List Item}
    {ph1 ph2 : List Token} {xs1 xs2 : List δ} (h1 : Run Rep s r1 ph1 xs1) (h2 : Run Rep r1.1 r2 ph2 xs2) :
    Run Rep s (r2.1, r1.2 ++ r2.2) (ph1 ++ ph2) (xs1 ++ xs2) :=
  ⟨h2.clean, by rw [List.map_append]; exact noErr_append h1.noErr h2.noErr,
    by rw [List.map_append]; exact app h1.rep h2.rep, by rw [h1.sig, h2.sig, List.append_assoc],
    Nat.le_trans h2.le h1.le⟩

section
variable {src : List Char} {key : Token → String} {s : PState} {r : PState × List Item}

theorem TokStep.runE {k : Tok} (h : TokStep s r k) (hk : k = .comma ∨ k = .lbrak ∨ k = .rbrak) :
    ∃ t, t.kind = k ∧ Run (ElemsRep src) s r [t] [] := by
  obtain ⟨t, ts, sk, -, htk, hi, hsk, hsig⟩ := h.tok
  refine ⟨t, htk, h.clean, ?_, ?_, hsig, Nat.le_of_lt h.less⟩ <;> rw [hi, List.map_cons]
  · exact noErr_cons (tok_noErr htk (by rcases hk with rfl | rfl | rfl <;> decide)) (skipItems_noErr hsk)
  · exact .punct (by rw [htk]; rcases hk with rfl | rfl | rfl <;> rfl) (skipItems_punct hsk)

theorem TokStep.runM {k : Tok} (h : TokStep s r k) (hk : k ≠ .error) :
    ∃ t, t.kind = k ∧ Run (MembersRep src) s r [t] [] := by
  obtain ⟨t, ts, sk, -, htk, hi, hsk, hsig⟩ := h.tok
  refine ⟨t, htk, h.clean, ?_, ?_, hsig, Nat.le_of_lt h.less⟩ <;> rw [hi, List.map_cons]
  · exact noErr_cons (tok_noErr htk hk) (skipItems_noErr hsk)
  · exact .other rfl (skipItems_other hsk)

theorem GV.run (h : GV src key s r) : ∃ ph d, TValue key ph d ∧ Run (ElemsRep src) s r ph [d] := by
  obtain ⟨n, sk, d, ph, hi, hsk, hvn, hev, hsig, htv⟩ := h.node
  refine ⟨ph, d, htv, h.clean, ?_, ?_, hsig, Nat.le_of_lt h.less⟩ <;> rw [hi, List.map_cons]
  · exact noErr_cons (valueRule_facts hvn).1 (skipItems_noErr hsk)
  · exact .val (valueRule_facts hvn).2 hev (skipItems_punct hsk)

theorem GM.run (h : GM src key s r) : ∃ (kt ct : Token) (ph : List Token) (v : Doc), kt.kind = .string ∧
    ct.kind = .colon ∧ TValue key ph v ∧ Run (MembersRep src) s r (kt :: ct :: ph) [(key kt, v)] := by
  obtain ⟨cs, sk, v, ph, kt, ct, hi, hsk, hmr, hkt, hct, hsig, htv⟩ := h.node
  refine ⟨kt, ct, ph, v, hkt, hct, htv, h.clean, ?_, ?_, hsig, Nat.le_of_lt h.less⟩ <;> rw [hi, List.map_cons]
  · exact noErr_cons rfl (skipItems_noErr hsk)
  · exact .mem hmr (skipItems_other hsk)

theorem GAL.run (h : GAL src key s r) : ∃ ph xs, TMoreElems key ph xs ∧ Run (ElemsRep src) s r ph xs := by
  obtain ⟨xs, ph, h1, h2, h3, h4⟩ := h.node
  exact ⟨ph, xs, h3, h.clean, h1, h2, h4, h.le⟩

theorem GOL.run (h : GOL src key s r) : ∃ ph ms, TMore key ph ms ∧ Run (MembersRep src) s r ph ms := by
  obtain ⟨ms, ph, h1, h2, h3, h4⟩ := h.node
  exact ⟨ph, ms, h3, h.clean, h1, h2, h4, h.le⟩

theorem GV.array {r1 mid r4 : PState × List Item} {ph : List Token} {xs : List Doc} (st1 : TokStep s r1 .lbrak)
    (hm : Run (ElemsRep src) r1.1 mid ph xs) (st4 : TokStep mid.1 r4 .rbrak)
    (htv : ∀ {l r : Token}, l.kind = .lbrak → r.kind = .rbrak → TValue key (l :: ph ++ [r]) (.arr xs)) :
    GV src key s (r4.1, closeRule .array (r1.2 ++ mid.2 ++ r4.2)) := by
  obtain ⟨lt, hlt, h1⟩ := st1.runE (src := src) (.inr (.inl rfl))
  obtain ⟨rt, ts4, sk4, -, hrt, hi4, hsk4, hsig4⟩ := st4.tok
  have h := h1.seq ElemsRep.append hm
  refine ⟨st4.clean, ?_, Nat.lt_trans (Nat.lt_of_lt_of_le st4.less hm.le) st1.less⟩
  rw [hi4, closeRule_spec .array _ _ sk4 hsk4]
  refine ⟨_, sk4, .arr xs, lt :: ph ++ [rt], rfl, hsk4, rfl, ?_, by rw [h.sig, hsig4]; simp, htv hlt hrt⟩
  rw [List.map_append]
  refine evals_array (noErr_append h.noErr (noErr_cons (tok_noErr hrt (by decide)) noErr_nil)) ?_
  simpa using h.rep.append (.punct (n := .tok rt.kind rt.start rt.stop) (by rw [hrt]; rfl) .nil)

theorem GV.object {r1 mid r4 : PState × List Item} {ph : List Token} {ms : List (String × Doc)}
    (st1 : TokStep s r1 .lbrace) (hm : Run (MembersRep src) r1.1 mid ph ms) (st4 : TokStep mid.1 r4 .rbrace)
    (htv : ∀ {l r : Token}, l.kind = .lbrace → r.kind = .rbrace → TValue key (l :: ph ++ [r]) (.obj ms)) :
    GV src key s (r4.1, closeRule .object (r1.2 ++ mid.2 ++ r4.2)) := by
  obtain ⟨lt, hlt, h1⟩ := st1.runM (src := src) (by decide)
  obtain ⟨rt, ts4, sk4, -, hrt, hi4, hsk4, hsig4⟩ := st4.tok
  have h := h1.seq MembersRep.append hm
  refine ⟨st4.clean, ?_, Nat.lt_trans (Nat.lt_of_lt_of_le st4.less hm.le) st1.less⟩
  rw [hi4, closeRule_spec .object _ _ sk4 hsk4]
  refine ⟨_, sk4, .obj ms, lt :: ph ++ [rt], rfl, hsk4, rfl, ?_, by rw [h.sig, hsig4]; simp, htv hlt hrt⟩
  rw [List.map_append]
  refine evals_object (noErr_append h.noErr (noErr_cons (tok_noErr hrt (by decide)) noErr_nil)) ?_
  simpa using h.rep.append (.other (n := .tok rt.kind rt.start rt.stop) rfl .nil)

theorem GM.of_steps {r1 r2 r3 : PState × List Item} (hk : KeyOk src key s.toks) (st1 : TokStep s r1 .string)
    (st2 : TokStep r1.1 r2 .colon) (gv : GV src key r2.1 r3) :
    GM src key s (r3.1, closeRule .member (r1.2 ++ r2.2 ++ r3.2)) := by
  obtain ⟨kt, ts1, sk1, ht1, hkt, hi1, hsk1, hsig1⟩ := st1.tok
  obtain ⟨ct, ts2, sk2, ht2, hct, hi2, hsk2, hsig2⟩ := st2.tok
  obtain ⟨n, sk3, v, ph, hi3, hsk3, hvn, hev, hsig3, htv⟩ := gv.node
  obtain ⟨txt, hsl, hlen, hkey⟩ := hk kt (by rw [ht1]; simp) hkt
  refine ⟨gv.clean, ?_, Nat.lt_trans (Nat.lt_trans gv.less st2.less) st1.less⟩
  rw [hi3, closeRule_spec .member _ n sk3 hsk3, hi1, hi2]
  refine ⟨_, sk3, v, ph, kt, ct, rfl, hsk3, ?_, hkt, hct, by rw [hsig1, hsig2, hsig3]; simp, htv⟩
  have hchildren : ((⟨.tok kt.kind kt.start kt.stop, false⟩ :: sk1 ++
      ⟨.tok ct.kind ct.start ct.stop, false⟩ :: sk2 ++ [(⟨n, false⟩ : Item)]).map (fun i : Item => i.node)) =
      .tok .string kt.start kt.stop ::
        (sk1.map (·.node) ++ .tok ct.kind ct.start ct.stop :: sk2.map (·.node)) ++ [n] := by
    simp [hkt]
  rw [hchildren, hkey]
  refine member_rep ?_ hvn hev ?_ hsl hlen
  · intro m hm
    rcases List.mem_append.1 hm with hm | hm
    · exact skipItems_notValue hsk1 m hm
    · rcases List.mem_cons.1 hm with rfl | hm
      · rfl
      · exact skipItems_notValue hsk2 m hm
  · exact noErr_cons rfl (noErr_append (noErr_append (skipItems_noErr hsk1)
      (noErr_cons (tok_noErr hct (by decide)) (skipItems_noErr hsk2)))
      (noErr_cons (valueRule_facts hvn).1 noErr_nil))

end

/-- a quiet run from a clean state delivers: `GV` for the three functions that produce a value
(`ruleValue`, `ruleObject`, `ruleArray`), `GM` for `ruleMember`, `GOL` / `GAL` for the two loops. Fuel
bounds as explained at `fuel_call_succ` (Lemmas/ParseYield.lean); `parse` supplies `2·|tokens| + 4`. -/
theorem rules_sound (src : List Char) (key : Token → String) (fuel : Nat) :
    (∀ s, CleanSt s → KeyOk src key s.toks → 2 * s.toks.length + 2 ≤ fuel →
      (ruleValue fuel s).1.diags = s.diags → GV src key s (ruleValue fuel s)) ∧
    (∀ s, CleanSt s → KeyOk src key s.toks → 2 * s.toks.length + 1 ≤ fuel →
      (ruleMember fuel s).1.diags = s.diags → GM src key s (ruleMember fuel s)) ∧
    (∀ s, CleanSt s → KeyOk src key s.toks → 2 * s.toks.length + 1 ≤ fuel →
      (objectLoop fuel s).1.diags = s.diags → GOL src key s (objectLoop fuel s)) ∧
    (∀ s, CleanSt s → KeyOk src key s.toks → 2 * s.toks.length + 1 ≤ fuel →
      (ruleObject fuel s).1.diags = s.diags → GV src key s (ruleObject fuel s)) ∧
    (∀ s, CleanSt s → KeyOk src key s.toks → 2 * s.toks.length + 1 ≤ fuel →
      (arrayLoop fuel s).1.diags = s.diags → GAL src key s (arrayLoop fuel s)) ∧
    (∀ s, CleanSt s → KeyOk src key s.toks → 2 * s.toks.length + 1 ≤ fuel →
      (ruleArray fuel s).1.diags = s.diags → GV src key s (ruleArray fuel s)) := by
  induction fuel with
  | zero => refine ⟨?_, ?_, ?_, ?_, ?_, ?_⟩ <;> (intro s _ _ hf; exact absurd hf (Nat.not_succ_le_zero _))
  | succ fuel ih =>
    obtain ⟨ihV, ihM, ihOL, ihO, ihAL, ihA⟩ := ih
    obtain ⟨gV, gM, gOL, -, gAL, -⟩ := grows_trace.rules fuel
    obtain ⟨yV, yM, -⟩ := rules_yield fuel
    have gE := grows_trace.expect
    have yE := expect_yields
    refine ⟨?_, ?_, ?_, ?_, ?_, ?_⟩
    · intro s hc hk hf hd
      rw [ruleValue_succ] at hd ⊢
      by_cases hO : (s.current == .lbrace) = true
      · rw [if_pos hO] at hd ⊢
        exact ihO s hc hk (Nat.le_of_succ_le_succ hf) hd
      rw [if_neg hO] at hd ⊢
      by_cases hA : (s.current == .lbrak) = true
      · rw [if_pos hA] at hd ⊢
        exact ihA s hc hk (Nat.le_of_succ_le_succ hf) hd
      rw [if_neg hA] at hd ⊢
      by_cases hL : isLiteralStart s.current = true
      · rw [if_pos hL, ruleLiteral_eq, if_pos hL] at hd ⊢
        exact litStep_sound hc hL hd
      · rw [if_neg hL] at hd
        exact absurd hd (error_changes hc)
    · intro s hc hk hf hd
      rw [ruleMember_succ] at hd ⊢
      simp only [Step.close] at hd
      obtain ⟨q12, q3⟩ := quiet_seq (grows_trace.always_seq (gE .string) (gE .colon)) gV hd
      obtain ⟨q1, q2⟩ := quiet_seq (gE .string) (gE .colon) q12
      -- so that `q3` names its state as `st2.clean` does; the unifier, left to see that the two agree, unfolds
      -- `expect` before `Step.seq` and spends on it as much as on the rest of this case
      simp only [Step.seq] at q3
      have st1 := expect_step hc .string (by decide) q1
      have st2 := expect_step st1.clean .colon (by decide) q2
      -- not `exact` against the goal with `Step.close` and `Step.seq` folded: the unifier then compares
      -- the two `closeRule` terms by unfolding `closeRule` before it has found the results to compare
      have := GM.of_steps hk st1 st2
        (ihV _ st2.clean ((hk.step (yE _)).step (yE _)) (fuel_call_succ hf (Nat.lt_trans st2.less st1.less)) q3)
      simpa only [Step.close, Step.seq] using this
    · intro s hc hk hf hd
      rw [objectLoop_succ] at hd ⊢
      by_cases hcomma : (s.current == .comma) = true
      · simp only [sepLoop, if_pos hcomma] at hd
        simp only [sepLoop, if_pos hcomma, Step.seq]
        obtain ⟨q12, q3⟩ := quiet_seq (grows_trace.always_seq (gE .comma) gM) gOL hd
        obtain ⟨q1, q2⟩ := quiet_seq (gE .comma) gM q12
        have st1 := expect_step hc .comma (by decide) q1
        have gm := ihM _ st1.clean (hk.step (yE _)) (fuel_call hf st1.less) q2
        have gl := ihOL _ gm.clean ((hk.step (yE _)).step yM) (fuel_call hf (Nat.lt_trans gm.less st1.less)) q3
        obtain ⟨mt, hmt, h1⟩ := st1.runM (src := src) (by decide)
        obtain ⟨kt, ct, ph, v, hkt, hct, htv, h2⟩ := gm.run
        obtain ⟨ph3, ms, hmore, h3⟩ := gl.run
        have h := (h1.seq MembersRep.append h2).seq MembersRep.append h3
        exact ⟨h.clean, ⟨_, _, h.noErr, h.rep, .cons hmt hkt hct htv hmore, by simpa using h.sig⟩, h.le⟩
      · simp only [sepLoop, if_neg hcomma] at hd ⊢
        by_cases hstop : stopO s.current = true
        · rw [if_pos hstop]
          exact ⟨hc, ⟨[], [], noErr_nil, .nil, .nil, rfl⟩, Nat.le_refl _⟩
        · rw [if_neg hstop] at hd
          exact absurd (quiet_seq grows_trace.advanceWithError gOL hd).1 (advanceWithError_changes hc)
    · intro s hc hk hf hd
      rw [ruleObject_succ] at hd ⊢
      simp only [bracket, Step.close] at hd
      have gI := grows_trace.optList (· == .string) .rbrace gM gOL
      obtain ⟨q12, q4⟩ := quiet_seq (grows_trace.always_seq (gE .lbrace) gI) (gE .rbrace) hd
      obtain ⟨q1, q2⟩ := quiet_seq (gE .lbrace) gI q12
      -- as for `q3` above
      simp only [Step.seq] at q4
      have st1 := expect_step hc .lbrace (by decide) q1
      have hk1 := hk.step (yE .lbrace)
      have mid : ∃ ph ms, Run (MembersRep src) (s.expect .lbrace).1
          (optList (· == .string) .rbrace (ruleMember fuel) (objectLoop fuel) (s.expect .lbrace).1) ph ms ∧
          ∀ {l r : Token}, l.kind = .lbrace → r.kind = .rbrace → TValue key (l :: ph ++ [r]) (.obj ms) := by
        unfold optList at q2 ⊢
        by_cases hfirst : ((s.expect .lbrace).1.current == .string) = true
        · simp only [if_pos hfirst] at q2 ⊢
          obtain ⟨qa, qb⟩ := quiet_seq gM gOL q2
          have gm := ihM _ st1.clean hk1 (fuel_call hf st1.less) qa
          have gl := ihOL _ gm.clean (hk1.step yM) (fuel_call hf (Nat.lt_trans gm.less st1.less)) qb
          obtain ⟨kt, ct, ph, v, hkt, hct, htv, h2⟩ := gm.run
          obtain ⟨ph3, ms, hmore, h3⟩ := gl.run
          exact ⟨_, _, h2.seq MembersRep.append h3, fun hl hr => .obj hl hr (members_of_more hkt hct htv hmore)⟩
        · simp only [if_neg hfirst] at q2 ⊢
          split at q2
          · rename_i hcl; rw [if_pos hcl]
            exact ⟨[], [], ⟨st1.clean, noErr_nil, .nil, rfl, Nat.le_refl _⟩, .objE⟩
          · exact absurd q2 (error_changes st1.clean)
      obtain ⟨ph, ms, hm, htv⟩ := mid
      -- as for `GM.of_steps` above: unfold the goal, do not unify through `closeRule`
      have := GV.object st1 hm (expect_step hm.clean .rbrace (by decide) q4) htv
      simpa only [bracket, Step.close, Step.seq] using this
    · intro s hc hk hf hd
      rw [arrayLoop_succ] at hd ⊢
      by_cases hcomma : (s.current == .comma) = true
      · simp only [sepLoop, if_pos hcomma] at hd
        simp only [sepLoop, if_pos hcomma, Step.seq]
        obtain ⟨q12, q3⟩ := quiet_seq (grows_trace.always_seq (gE .comma) gV) gAL hd
        obtain ⟨q1, q2⟩ := quiet_seq (gE .comma) gV q12
        have st1 := expect_step hc .comma (by decide) q1
        have gv := ihV _ st1.clean (hk.step (yE _)) (fuel_call_succ hf st1.less) q2
        have gl := ihAL _ gv.clean ((hk.step (yE _)).step yV) (fuel_call hf (Nat.lt_trans gv.less st1.less)) q3
        obtain ⟨mt, hmt, h1⟩ := st1.runE (src := src) (.inl rfl)
        obtain ⟨ph, x, htv, h2⟩ := gv.run
        obtain ⟨ph3, xs, hmore, h3⟩ := gl.run
        have h := (h1.seq ElemsRep.append h2).seq ElemsRep.append h3
        exact ⟨h.clean, ⟨_, _, h.noErr, h.rep, .cons hmt htv hmore, by simpa using h.sig⟩, h.le⟩
      · simp only [sepLoop, if_neg hcomma] at hd ⊢
        by_cases hstop : stopA s.current = true
        · rw [if_pos hstop]
          exact ⟨hc, ⟨[], [], noErr_nil, .nil, .nil, rfl⟩, Nat.le_refl _⟩
        · rw [if_neg hstop] at hd
          exact absurd (quiet_seq grows_trace.advanceWithError gAL hd).1 (advanceWithError_changes hc)
    · intro s hc hk hf hd
      rw [ruleArray_succ] at hd ⊢
      simp only [bracket, Step.close] at hd
      have gI := grows_trace.optList isValueStart .rbrak gV gAL
      obtain ⟨q12, q4⟩ := quiet_seq (grows_trace.always_seq (gE .lbrak) gI) (gE .rbrak) hd
      obtain ⟨q1, q2⟩ := quiet_seq (gE .lbrak) gI q12
      -- as for `q3` above
      simp only [Step.seq] at q4
      have st1 := expect_step hc .lbrak (by decide) q1
      have hk1 := hk.step (yE .lbrak)
      have mid : ∃ ph xs, Run (ElemsRep src) (s.expect .lbrak).1
          (optList isValueStart .rbrak (ruleValue fuel) (arrayLoop fuel) (s.expect .lbrak).1) ph xs ∧
          ∀ {l r : Token}, l.kind = .lbrak → r.kind = .rbrak → TValue key (l :: ph ++ [r]) (.arr xs) := by
        unfold optList at q2 ⊢
        by_cases hfirst : isValueStart (s.expect .lbrak).1.current = true
        · simp only [if_pos hfirst] at q2 ⊢
          obtain ⟨qa, qb⟩ := quiet_seq gV gAL q2
          have gv := ihV _ st1.clean hk1 (fuel_call_succ hf st1.less) qa
          have gl := ihAL _ gv.clean (hk1.step yV) (fuel_call hf (Nat.lt_trans gv.less st1.less)) qb
          obtain ⟨ph, x, htv, h2⟩ := gv.run
          obtain ⟨ph3, xs, hmore, h3⟩ := gl.run
          exact ⟨_, _, h2.seq ElemsRep.append h3, fun hl hr => .arr hl hr (elems_of_more htv hmore)⟩
        · simp only [if_neg hfirst] at q2 ⊢
          split at q2
          · rename_i hcl; rw [if_pos hcl]
            exact ⟨[], [], ⟨st1.clean, noErr_nil, .nil, rfl, Nat.le_refl _⟩, .arrE⟩
          · exact absurd q2 (error_changes st1.clean)
      obtain ⟨ph, xs, hm, htv⟩ := mid
      have := GV.array st1 hm (expect_step hm.clean .rbrak (by decide) q4) htv
      simpa only [bracket, Step.close, Step.seq] using this

end ShapeVerif
