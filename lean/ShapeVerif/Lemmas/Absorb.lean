/-
Merging in a shape that is already a subset of the accumulator: the result admits nothing new
(`absorbed_upper`) and merging it once more changes nothing (`absorb_stable`). Both by the classes of
arms of `merger`: some classes cannot occur when the right operand is below the left one, and where
the result admits exactly the documents of the two operands `subset_sound` gives the upper bound at once.
-/
import ShapeVerif.Lemmas.SubsetKeeps
import ShapeVerif.Lemmas.MergeSem
import ShapeVerif.Props.C02
namespace ShapeVerif
open Shape

theorem flag_absorbed {a b : Shape} (ha : a.isOneOf = false) (h : isSubset b a = true) :
    (a.isOptional || b.isOptional) = a.isOptional := by
  cases hb : b.isOptional with
  | false => exact Bool.or_false _
  | true =>
    rw [isOptional_of_sub ha (nullableSyn_of_isOptional hb) h]
    rfl

theorem arrayTupleVariants_stable (t : Shape) (es : List Shape) :
    arrayTupleVariants (.oneOf (arrayTupleVariants t es) false) es = arrayTupleVariants t es :=
  sortedSet_ext (sortedSet_arrayTupleVariants _ _) (sortedSet_arrayTupleVariants _ _) fun v => by
    constructor
    · intro h
      rcases mem_arrayTupleVariants.1 h with ⟨rfl, hn⟩ | he | h | ⟨_, h⟩
      · rw [isOptional, Bool.or_false] at hn
        exact mem_arrayTupleVariants.2 (.inl ⟨rfl, flag_or_left _ hn⟩)
      · exact mem_arrayTupleVariants.2 (.inr (.inl he))
      · exact h
      · cases h
    · exact fun h => mem_arrayTupleVariants.2 (.inr (.inr (.inl h)))

theorem merger_asOptional_null (s : Shape) : merger s.asOptional .null = s.asOptional := by
  rw [merge_null_right]
  exact withOptional_withOptional ..

theorem pick_of_sub {e d : Shape} (he : e.wf = true) (hd : d.wf = true) (h : isSubset d e = true) :
    ∃ c, pickTuple e d = some c ∧ pickTuple c d = some c ∧ isSubset c e = true := by
  unfold pickTuple
  by_cases hed : isSubset e d = true
  · exact ⟨d, by simp [hed], by simp [subset_refl d hd], h⟩
  · exact ⟨e, by simp [hed, h], by simp [hed, h], subset_refl e he⟩

theorem zipped_of_sub : ∀ {es ds : List Shape}, wfList es = true → wfList ds = true →
    Pointwise (fun d e => isSubset d e = true) ds es →
    ∃ folded, Zipped es ds folded ∧ Zipped folded ds folded ∧
      Pointwise (fun c e => isSubset c e = true) folded es
  | [], [] => fun _ _ _ => ⟨[], .nil, .nil, trivial⟩
  | e :: es, d :: ds => fun he hd hz => by
    simp only [wfList, Bool.and_eq_true] at he hd
    obtain ⟨c, h1, h2, h3⟩ := pick_of_sub he.1 hd.1 hz.1
    obtain ⟨cs, g1, g2, g3⟩ := zipped_of_sub he.2 hd.2 hz.2
    exact ⟨c :: cs, .cons h1 g1, .cons h2 g2, h3, g3⟩
  | [], _ :: _ => fun _ _ hz => by cases hz
  | _ :: _, [] => fun _ _ hz => by cases hz

theorem Merged.stable {a b r : Shape} (h : Merged a b r) :
    a.wf = true → b.wf = true → isSubset b a = true → merger r b = r := by
  induction h with
  | nullLeft b =>
    intro _ _ h
    rw [sub_null_inv h]
    rfl
  | nullRight a => exact fun _ _ _ => merger_asOptional_null a
  | scalars k o p hk =>
    intro _ _ _
    rw [merger_scalars hk, Bool.or_assoc, Bool.or_self]
  | oneOfs vs o ws p =>
    intro ha _ _
    rw [wf_oneOf_iff] at ha
    rw [merger_oneOf_oneOf, Bool.or_assoc, Bool.or_self,
      setExtend_of_subset (sortedSet_setExtend ha.1) fun x hx => mem_setExtend.2 (.inr hx)]
  | intoRight a vs p hs =>
    intro _ _ h
    rw [oneOf_sub_nonOneOf (simple_not_oneOf hs)] at h
    cases h
  | intoLeft vs o b hs =>
    intro ha _ _
    rw [merger_oneOf_left hs, addToOneOf_of_mem (sortedSet_addToOneOf (wf_oneOf_iff.1 ha).1)
      (mem_addToOneOf.2 (.inl rfl)) fun ho => mem_addToOneOf.2 (.inr (.inr ⟨rfl, ho⟩))]
  | arrays t o t' p _ ih =>
    intro ha hb h
    rw [sub_array_array, Bool.and_eq_true] at h
    rw [array_struct, ih ha hb h.2, Bool.or_assoc, Bool.or_self]
  | objects c o oc p _ ih =>
    intro ha hb h
    rw [wf_object_iff] at ha hb
    rw [sub_object_object, Bool.and_eq_true] at h
    rw [merger_object_object, Bool.or_assoc, Bool.or_self]
    -- key by key: what `oc` holds is below what `c` holds, so the value is merged with it once more
    have hM := sortedKeys_mergedContent c oc
    refine congrArg (Shape.object · (o || p)) (members_ext (sortedKeys_mergedContent _ _) hM fun k => ?_)
    rw [mapGet_mergedContent hM hb.1, mapGet_mergedContent ha.1 hb.1]
    cases hvs : mapGet k oc with
    | none => cases mapGet k c <;> simp only [asOptional, withOptional_withOptional]
    | some vs =>
      obtain ⟨v, hv, hsub⟩ := (objSub_iff.1 h.2).2 k vs (mem_of_mapGet hvs)
      simp only [hv]
      rw [ih k v vs hv hvs (ha.2 _ (mem_of_mapGet hv)) (hb.2 _ (mem_of_mapGet hvs)) hsub]
  | arrayTuple t o es p =>
    intro _ _ _
    rw [merger_array_tuple, arrayTupleVariants_stable, Bool.or_assoc, Bool.or_self]
  | tupleArray es p t o =>
    intro _ _ h
    rw [sub_tuple] at h
    cases h
  | tuplesZip es o os p folded hz =>
    intro ha hb h
    obtain ⟨f, g1, g2, _⟩ := zipped_of_sub ha hb (sub_tuple_tuple_iff.1 h).2
    cases hz.unique g1
    rw [merger_tuples_zipped g2, Bool.or_assoc, Bool.or_self]
  | tuplesUnion es o os p hno =>
    intro ha hb h
    obtain ⟨f, g1, _⟩ := zipped_of_sub ha hb (sub_tuple_tuple_iff.1 h).2
    exact absurd g1 (hno f)
  | mixed a b hm =>
    intro _ _ _
    rw [mixed_eq, merger_oneOf_left (simple_of_mixes hm).2]
    exact congrArg (Shape.oneOf · false) (addToOneOf_of_mem (sortedSet_setOfList _)
      (mem_mixedVariants.2 (.inr (.inl rfl))) fun ho => mem_mixedVariants.2 (.inr (.inr ⟨rfl, flag_or_right _ ho⟩)))

/-- Once `b.is_subset(a)`, merging `b` into `merger(a, b)` a second time returns it unchanged. -/
theorem absorb_stable {a b : Shape} (ha : a.wf = true) (hb : b.wf = true) (h : isSubset b a = true) :
    merger (merger a b) b = merger a b := (merged a b).stable ha hb h

theorem Merged.upper {a b r : Shape} (h : Merged a b r) : a.wf = true → b.wf = true → isSubset b a = true →
    ∀ x, admits r x = true → admits a x = true := by
  -- where the result admits exactly the documents of the operands, `b ⊑ a` is all that is needed
  have union {a b r : Shape} (hu : ∀ x, admits r x = (admits a x || admits b x)) (ha : a.wf = true)
      (hs : isSubset b a = true) (x : Doc) (hx : admits r x = true) : admits a x = true := by
    rw [hu, Bool.or_eq_true] at hx
    exact hx.elim id (subset_sound b a ha hs x)
  induction h with
  | nullLeft b => exact fun ha _ => union (fun x => by rw [admits_asOptional_eq, Bool.or_comm]; rfl) ha
  | nullRight a => exact fun ha _ => union (fun x => by rw [admits_asOptional_eq]; rfl) ha
  | scalars k o p _ => exact fun ha _ => union (admits_withOptional_or k o p) ha
  | oneOfs vs o ws p => exact fun ha _ => union (admits_oneOf_setExtend vs ws o p) ha
  | intoRight a vs p _ => exact fun ha _ => union (admits_addToOneOf a vs p) ha
  | intoLeft vs o b _ => exact fun ha _ => union (fun x => by rw [admits_addToOneOf, Bool.or_comm]) ha
  | mixed a b _ => exact fun ha _ => union (admits_mixed a b) ha
  | arrays t o t' p _ ih =>
    intro ha hb h x hx
    have hf : (o || p) = o := flag_absorbed (a := .array t o) rfl h
    rw [sub_array_array, Bool.and_eq_true] at h
    exact admits_array_mono (ih ha hb h.2) (fun hq => hf ▸ hq) hx
  | objects c o oc p _ ih =>
    intro ha hb h x hx
    have hf : (o || p) = o := flag_absorbed (a := .object c o) rfl h
    rw [wf_object_iff] at ha hb
    rw [sub_object_object, Bool.and_eq_true, objSub_iff] at h
    have hcs := h.2
    refine admits_object_mono ha.1 (fun hq => hf ▸ hq) (fun k => ?_) hx
    rw [mapGet_mergedContent ha.1 hb.1]
    cases hv : mapGet k c <;> cases hov : mapGet k oc
    · trivial
    · -- every key of `oc` is a key of `c`
      obtain ⟨v, hv', _⟩ := hcs.2 k _ (mem_of_mapGet hov)
      cases hv.symm.trans hv'
    · -- a key that only `c` has keeps its value, made optional; `oc ⊑ c` needs it nullable there
      intro y hy
      rw [admits_asOptional_eq, Bool.or_eq_true] at hy
      refine hy.elim id fun hn => ?_
      cases Doc.isNull_iff.1 hn
      refine admits_null_of_nullableSyn ((hcs.1 k _ (mem_of_mapGet hv)).resolve_left fun hk => ?_)
      obtain ⟨w, hw⟩ := mapContainsKey_iff.1 hk
      cases (mapGet_eq_some_of_mem hb.1 hw).symm.trans hov
    · obtain ⟨v', hv', hsub⟩ := hcs.2 k _ (mem_of_mapGet hov)
      cases hv.symm.trans hv'
      exact ih k _ _ hv hov (ha.2 _ (mem_of_mapGet hv)) (hb.2 _ (mem_of_mapGet hov)) hsub
  | arrayTuple t o es p =>
    intro ha _ h x hx
    have hf : (o || p) = o := flag_absorbed (a := .array t o) rfl h
    rw [sub_tuple_array, Bool.and_eq_true, List.all_eq_true] at h
    refine admits_array_mono (fun y hy => ?_) (fun hq => hf ▸ hq) hx
    -- a document of some variant is a document of `t` or of a tuple element, which is below `t`
    rw [admits_oneOf_false, admitsAny_arrayTupleVariants, Bool.or_eq_true, List.any_eq_true] at hy
    exact hy.elim id fun ⟨e, he, hey⟩ => subset_sound e t ha (h.2 e he) y hey
  | tupleArray es p t o =>
    intro _ _ h
    rw [sub_tuple] at h
    cases h
  | tuplesZip es o os p folded hz =>
    intro ha hb h x hx
    have hf : (o || p) = o := flag_absorbed (a := .tuple es o) rfl h
    obtain ⟨f, g1, _, g3⟩ := zipped_of_sub ha hb (sub_tuple_tuple_iff.1 h).2
    cases hz.unique g1
    exact subset_sound _ _ ha (sub_tuple_tuple_iff.2 ⟨fun hq => hf ▸ hq, g3⟩) x hx
  | tuplesUnion es o os p hno =>
    intro ha hb h
    obtain ⟨f, g1, _⟩ := zipped_of_sub ha hb (sub_tuple_tuple_iff.1 h).2
    exact absurd g1 (hno f)

/-- Once `b.is_subset(a)`, `merger(a, b)` admits no document that `a` does not admit. -/
theorem absorbed_upper {a b : Shape} (ha : a.wf = true) (hb : b.wf = true) (h : isSubset b a = true) {x : Doc}
    (hx : admits (merger a b) x = true) : admits a x = true := (merged a b).upper ha hb h x hx

end ShapeVerif
