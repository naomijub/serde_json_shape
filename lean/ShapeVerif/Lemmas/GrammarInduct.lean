/-
Induction over derivations of the token grammar (`Ref/TokenGrammar.lean`), the three judgements at
once. Stated once because recursion over the three mutually inductive predicates, written as a
`mutual` block of theorems, is compiled through `below`/`brecOn` for predicates and checks at two to
four times the cost of applying the recursor.
-/
import ShapeVerif.Ref.TokenGrammar

namespace ShapeVerif

theorem TValue.induct {key : Token → String} {P : List Token → Doc → Prop} {Q : List Token → List Doc → Prop}
    {R : List Token → List (String × Doc) → Prop}
    (null : ∀ {t : Token}, t.kind = .null_ → P [t] .null)
    (tru : ∀ {t : Token}, t.kind = .true_ → P [t] (.bool false))
    (fls : ∀ {t : Token}, t.kind = .false_ → P [t] (.bool false))
    (num : ∀ {t : Token}, t.kind = .number → P [t] (.num ""))
    (str : ∀ {t : Token}, t.kind = .string → P [t] (.str ""))
    (arrE : ∀ {l r : Token}, l.kind = .lbrak → r.kind = .rbrak → P [l, r] (.arr []))
    (arr : ∀ {l r : Token} {ts : List Token} {xs : List Doc}, l.kind = .lbrak → r.kind = .rbrak →
      TElems key ts xs → Q ts xs → P (l :: ts ++ [r]) (.arr xs))
    (objE : ∀ {l r : Token}, l.kind = .lbrace → r.kind = .rbrace → P [l, r] (.obj []))
    (obj : ∀ {l r : Token} {ts : List Token} {ms : List (String × Doc)}, l.kind = .lbrace → r.kind = .rbrace →
      TMembers key ts ms → R ts ms → P (l :: ts ++ [r]) (.obj ms))
    (eOne : ∀ {ts : List Token} {x : Doc}, TValue key ts x → P ts x → Q ts [x])
    (eCons : ∀ {c : Token} {ts rest : List Token} {x : Doc} {xs : List Doc}, c.kind = .comma →
      TValue key ts x → TElems key rest xs → P ts x → Q rest xs → Q (ts ++ c :: rest) (x :: xs))
    (mOne : ∀ {k c : Token} {ts : List Token} {v : Doc}, k.kind = .string → c.kind = .colon →
      TValue key ts v → P ts v → R (k :: c :: ts) [(key k, v)])
    (mCons : ∀ {k c m : Token} {ts rest : List Token} {v : Doc} {ms : List (String × Doc)},
      k.kind = .string → c.kind = .colon → m.kind = .comma → TValue key ts v → TMembers key rest ms →
      P ts v → R rest ms → R (k :: c :: ts ++ m :: rest) ((key k, v) :: ms)) :
    (∀ {ph d}, TValue key ph d → P ph d) ∧ (∀ {ts xs}, TElems key ts xs → Q ts xs) ∧
      (∀ {ts ms}, TMembers key ts ms → R ts ms) :=
  ⟨fun h => TValue.rec (motive_1 := fun a b _ => P a b) (motive_2 := fun a b _ => Q a b) (motive_3 := fun a b _ => R a b)
      null tru fls num str arrE arr objE obj eOne eCons mOne mCons h,
   fun h => TElems.rec (motive_1 := fun a b _ => P a b) (motive_2 := fun a b _ => Q a b) (motive_3 := fun a b _ => R a b)
      null tru fls num str arrE arr objE obj eOne eCons mOne mCons h,
   fun h => TMembers.rec (motive_1 := fun a b _ => P a b) (motive_2 := fun a b _ => Q a b) (motive_3 := fun a b _ => R a b)
      null tru fls num str arrE arr objE obj eOne eCons mOne mCons h⟩

end ShapeVerif
