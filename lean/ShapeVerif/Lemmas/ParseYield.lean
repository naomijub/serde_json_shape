/-
Accounting for tokens. The items a step emits, followed by the tokens it leaves, are the tokens it
started with (`Yields`, an instance of `Trace`); so the leaves of the tree built by the recovering parser
are a prefix of the lexer's tokens: none is skipped, duplicated or reordered by any of the recovery paths
(`parse_leaves`). In a coherent state (`Coh`) a successful `expect` and
`advanceWithError` remove a token (`L` counts those left): the potential behind the fuel, depth and
work bounds.
-/
import ShapeVerif.Lemmas.ParseStep
namespace ShapeVerif

mutual
def leaves : Node → List Token
  | .tok k s e => [⟨k, s, e⟩]
  | .rule _ cs => leavesList cs
def leavesList : List Node → List Token
  | [] => []
  | n :: ns => leaves n ++ leavesList ns
end

theorem leavesList_append : ∀ (a b : List Node), leavesList (a ++ b) = leavesList a ++ leavesList b
  | [], b => by simp [leavesList]
  | n :: a, b => by simp [leavesList, leavesList_append a b]

def yieldItems (items : List Item) : List Token := leavesList (items.map (·.node))

@[simp] theorem yieldItems_nil : yieldItems [] = [] := rfl

@[simp] theorem yieldItems_append (a b : List Item) : yieldItems (a ++ b) = yieldItems a ++ yieldItems b := by
  simp [yieldItems, leavesList_append]

@[simp] theorem yieldItems_cons (i : Item) (l : List Item) : yieldItems (i :: l) = leaves i.node ++ yieldItems l := by
  simp [yieldItems, leavesList]

/-- `Cst::close` cuts the items in two and wraps the first part -/
theorem closeRule_split (r : Rule) (items : List Item) :
    ∃ inside trailing, items = inside ++ trailing ∧ closeRule r items = ⟨.rule r (inside.map (·.node)), false⟩ :: trailing :=
  ⟨_, _, by rw [← List.reverse_append, List.takeWhile_append_dropWhile, List.reverse_reverse], rfl⟩

theorem yield_closeRule (r : Rule) (items : List Item) : yieldItems (closeRule r items) = yieldItems items := by
  obtain ⟨inside, trailing, rfl, e⟩ := closeRule_split r items
  rw [e, yieldItems_cons, yieldItems_append]
  rfl

theorem takeSkips_yield : ∀ (ts : List Token), yieldItems (takeSkips ts).1 ++ (takeSkips ts).2.1 = ts
  | [] => by simp [takeSkips]
  | t :: ts => by
    unfold takeSkips
    split
    · simp [leaves, takeSkips_yield ts]
    · simp

theorem takeSkips_subset (ts : List Token) (t : Token) (h : t ∈ (takeSkips ts).2.1) : t ∈ ts :=
  takeSkips_yield ts ▸ List.mem_append_right _ h

theorem error_toks (s : PState) : s.error.toks = s.toks := by
  unfold PState.error; split <;> rfl

def Yields (f : Step) : Prop := Always (fun s r => yieldItems r.2 ++ r.1.toks = s.toks) f

theorem yields_trace : Trace fun s r => yieldItems r.2 ++ r.1.toks = s.toks where
  skip _ := rfl
  seq h1 h2 := by rw [yieldItems_append, List.append_assoc, h2, h1]
  close k h := by rw [yield_closeRule]; exact h
  error := error_toks
  advance s e := by
    unfold PState.advance
    split
    · rfl
    · next t ts ht => simp [leaves, takeSkips_yield ts, ht]
  cooldown _ := rfl

theorem expect_yields (k : Tok) : Yields (fun s => s.expect k) := yields_trace.expect k

theorem rules_yield (fuel : Nat) :
    Yields (ruleValue fuel) ∧ Yields (ruleMember fuel) ∧ Yields (objectLoop fuel) ∧ Yields (ruleObject fuel) ∧
      Yields (arrayLoop fuel) ∧ Yields (ruleArray fuel) := yields_trace.rules fuel

theorem token_eta (t : Token) : (⟨t.kind, t.start, t.stop⟩ : Token) = t := by cases t; rfl

theorem yield_map_toks (f : Token → Bool) : ∀ (ts : List Token),
    yieldItems (ts.map fun t => ⟨.tok t.kind t.start t.stop, f t⟩) = ts
  | [] => rfl
  | t :: ts => by simp [leaves, token_eta, yield_map_toks f ts]

/-- the leaves of the parse tree are a prefix of the lexer's tokens; that they are all of them (a parser
that stops early hangs the rest under a trailing error node) needs the final state to be coherent, which
this statement does not carry -/
theorem parse_leaves (cs : List Char) : ∃ rest, leaves (parse cs).root ++ rest = (tokenize cs).tokens := by
  simp only [parse, leaves]
  have hsk := takeSkips_yield (tokenize cs).tokens
  have hv := (rules_yield (2 * (tokenize cs).tokens.length + 4)).1 (initState (tokenize cs) (utf8Len cs))
  have htoks : (initState (tokenize cs) (utf8Len cs)).toks = (takeSkips (tokenize cs).tokens).2.1 := rfl
  generalize ruleValue (2 * (tokenize cs).tokens.length + 4) (initState (tokenize cs) (utf8Len cs)) = rv at hv
  show ∃ rest, yieldItems ((takeSkips (tokenize cs).tokens).1 ++ rv.2 ++ (parseTail rv.1).2) ++ rest = _
  unfold parseTail
  split
  · refine ⟨[], ?_⟩
    simp only [yieldItems_append, yield_closeRule, yield_map_toks, error_toks, List.append_nil]
    rw [List.append_assoc, hv, htoks, hsk]
  · refine ⟨rv.1.toks, ?_⟩
    simp only [yieldItems_append, List.append_nil]
    rw [List.append_assoc, hv, htoks, hsk]

/-- `current` is the kind of the next token, `EOF` when none is left. Kept by every step (`coh_stable`);
all that the bounds for arbitrary input ask of a state. -/
def Coh (s : PState) : Prop := s.current = headKind s.toks

theorem coh_stable : Stable Coh where
  error := by
    intro s h
    unfold PState.error
    split <;> exact h
  advance := by
    intro s e h
    unfold PState.advance
    cases ht : s.toks with
    | nil => simpa [Coh, ht] using h
    | cons t ts => simp [Coh]
  cooldown := by intro s h; exact h

/-- the tokens **l**eft: the potential of the fuel, depth and work bounds -/
def L (s : PState) : Nat := s.toks.length

theorem L_error (s : PState) : L s.error = L s := congrArg List.length (error_toks s)

theorem yields_len {f : PState → PState × List Item} (h : Yields f) (s : PState) : L (f s).1 ≤ L s := by
  have := congrArg List.length (h s)
  simp [L] at this ⊢
  omega

theorem takeSkips_len (ts : List Token) : (takeSkips ts).2.1.length ≤ ts.length := by
  have := congrArg List.length (takeSkips_yield ts)
  simp at this
  omega

theorem advance_consumes (s : PState) (e : Bool) (hne : s.toks ≠ []) : L (s.advance e).1 + 1 ≤ L s := by
  unfold PState.advance L
  cases ht : s.toks with
  | nil => exact absurd ht hne
  | cons t ts =>
    simp only [List.length_cons]
    have := takeSkips_len ts
    omega

/-- The fuel discipline. A rule function entered with `b` tokens left is given `2·b + i` units: a call that
consumes no token (`ruleValue` → `ruleObject` / `ruleArray`) is followed by one that does, so two units per token
suffice. A callee entered after a token has gone (`a < b`) finds its `2·a + i` in the one unit less that is left,
with a unit to spare (for `ruleValue`, which may call on without consuming). -/
theorem fuel_call_succ {a b i f : Nat} (h : 2 * b + i ≤ f + 1) (l : a < b) : 2 * a + i + 1 ≤ f := by omega

/-- the same, the spare unit dropped -/
theorem fuel_call {a b i f : Nat} (h : 2 * b + i ≤ f + 1) (l : a < b) : 2 * a + i ≤ f :=
  Nat.le_of_succ_le (fuel_call_succ h l)

theorem toks_ne_of_current {s : PState} (h : Coh s) {k : Tok} (hk : (s.current == k) = true) (hne : k ≠ .eof) :
    s.toks ≠ [] := by
  intro e
  rw [Coh, e] at h
  exact hne ((beq_iff_eq.1 hk).symm.trans h)

theorem expect_consumes (s : PState) (h : Coh s) (k : Tok) (hk : (s.current == k) = true) (hne : k ≠ .eof) :
    L (s.expect k).1 + 1 ≤ L s := by
  unfold PState.expect
  rw [if_pos hk]
  exact advance_consumes s false (toks_ne_of_current h hk hne)

theorem advanceWithError_consumes (s : PState) (h : Coh s) (hne : s.current ≠ .eof) :
    L s.advanceWithError.1 + 1 ≤ L s := by
  unfold PState.advanceWithError
  have hne' : s.toks ≠ [] := toks_ne_of_current h (beq_self_eq_true _) hne
  have h1 : ({ s.error with cooldown := true } : PState).toks ≠ [] := by simpa [error_toks] using hne'
  have := advance_consumes { s.error with cooldown := true } true h1
  simpa [L, error_toks] using this

theorem expect_len (s : PState) (k : Tok) : L (s.expect k).1 ≤ L s := yields_len (expect_yields k) s

theorem initState_coh (lx : LexResult) (m : Nat) : Coh (initState lx m) := by
  simp [Coh, initState]

theorem initState_len (lx : LexResult) (m : Nat) : L (initState lx m) ≤ lx.tokens.length := by
  simp only [L, initState]
  exact takeSkips_len lx.tokens

end ShapeVerif
