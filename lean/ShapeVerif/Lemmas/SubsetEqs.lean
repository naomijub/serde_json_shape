/-
`is_subset` with the optional flags as variables. The model has one arm per left constructor and
flag value; here it is read once by its second argument (the one it recurses on): one equation per
constructor of the right-hand side, saying which left-hand sides can be below it and on what
condition. A second, smaller table reads it by the class of the left-hand side (`Null`, scalar,
container, `OneOf`) against a right-hand side that is or is not a `OneOf`. Every later fact about
`isSubset` starts from these equations instead of unfolding the definition.
-/
import ShapeVerif.Lemmas.Containers
import ShapeVerif.Model.Subset
import ShapeVerif.Lemmas.ShapeClasses
import ShapeVerif.Lemmas.Pointwise
namespace ShapeVerif
open Shape

/-- syntactic nullability as `is_subset` sees it: the optional flag (or `Null`), or a `OneOf` holding `Null` -/
def nullableSyn (s : Shape) : Bool := s.isOptional || isOneOfNull s

/-- the two conditions of the `Object ⊆ Object` arm -/
def objSub (c oc : Members) : Bool :=
  oc.all (fun kv => mapContainsKey kv.1 c || kv.2.isOptional || isOneOfNull kv.2)
    && c.all (fun kv => lookupSubset kv.1 kv.2 oc)

theorem nullableSyn_of_isOptional {s : Shape} (h : s.isOptional = true) : nullableSyn s = true := by
  rw [nullableSyn, h]
  rfl

theorem nullableSyn_simple {a : Shape} (ha : a.isOneOf = false) : nullableSyn a = a.isOptional := by
  cases a with
  | oneOf => cases ha
  | _ => exact Bool.or_false _

theorem nullableSyn_oneOf (vs : List Shape) (o : Bool) :
    nullableSyn (.oneOf vs o) = true ↔ o = true ∨ Shape.null ∈ vs := by
  simp [nullableSyn, isOptional, isOneOfNull, setContains_iff]

theorem anySuperset_eq (s : Shape) (l : List Shape) : anySuperset s l = l.any (isSubset s) :=
  any_of_rec rfl (fun _ _ => rfl) l

theorem anyObjectSuperset_eq (s : Shape) (l : List Shape) :
    anyObjectSuperset s l = l.any fun v => v.isObject && isSubset s v :=
  any_of_rec rfl (fun _ _ => rfl) l

theorem anyNullOkSuperset_eq (s : Shape) (n : Bool) (l : List Shape) :
    anyNullOkSuperset s n l = l.any fun v => (n || v.isOptional) && isSubset s v :=
  any_of_rec rfl (fun _ _ => rfl) l

theorem zipAllSubset_eq (es os : List Shape) :
    zipAllSubset es os = (es.zip os).all fun p => isSubset p.1 p.2 := by
  induction es generalizing os with
  | nil => cases os <;> rfl
  | cons e es ih =>
    cases os with
    | nil => rfl
    | cons o os => simp only [zipAllSubset, List.zip_cons_cons, List.all_cons, ih]

theorem zipAllSubset_iff : ∀ {es os : List Shape},
    (zipAllSubset es os && es.length == os.length) = true ↔ Pointwise (fun e o => isSubset e o = true) es os
  | [], [] => by simp [zipAllSubset, Pointwise]
  | [], _ :: _ => by simp [zipAllSubset, Pointwise]
  | _ :: _, [] => by simp [zipAllSubset, Pointwise]
  | e :: es, o :: os => by
    simp only [zipAllSubset, Pointwise, ← zipAllSubset_iff (es := es), Bool.and_eq_true, List.length_cons,
      beq_iff_eq, Nat.succ.injEq, and_assoc]

theorem lookupSubset_eq_mapGet (k : String) (v : Shape) (c : Members) :
    lookupSubset k v c = match mapGet k c with
      | some x => isSubset v x
      | none => false := by
  induction c with
  | nil => rfl
  | cons a c ih =>
    obtain ⟨k', x⟩ := a
    simp only [lookupSubset, mapGet_cons, ih]
    split <;> rfl

theorem anySuperset_iff {s : Shape} {ws : List Shape} :
    anySuperset s ws = true ↔ ∃ v ∈ ws, isSubset s v = true := by
  rw [anySuperset_eq, List.any_eq_true]

theorem objSub_iff {c oc : Members} : objSub c oc = true ↔
    (∀ k v, (k, v) ∈ oc → mapContainsKey k c = true ∨ nullableSyn v = true) ∧
    (∀ k v, (k, v) ∈ c → ∃ ov, mapGet k oc = some ov ∧ isSubset v ov = true) := by
  simp only [objSub, Bool.and_eq_true, List.all_eq_true, lookupSubset_eq_mapGet, nullableSyn, Bool.or_eq_true,
    or_assoc, Prod.forall]
  refine and_congr_right fun _ => forall₃_congr fun k v _ => ?_
  cases mapGet k oc <;> simp

/-- the shape of `container_sub_oneOf`'s condition, widened in its middle part -/
theorem nullOk_mono {a x y w b c : Bool} (h : ((a || x || w) && b && c) = true) (hxy : x = true → y = true) :
    ((a || y || w) && b && c) = true := by
  revert a x y w b c
  decide

/-! ### one equation per right-hand constructor

Each is the model's definition with the flag cases folded: `rfl` once the constructors and flags
are known (closed by `eq_refl`: on every one of the many goals the `rfl` macro would first try
`Iff.rfl` and `HEq.rfl`). -/

theorem sub_atom {b : Shape} (hb : b.isAtom = true) (a : Shape) : isSubset a b =
    ((a.isNull && b.isOptional) || (a.tag == b.tag && (!a.isOptional || b.isOptional))) := by
  cases b with
  | null =>
    cases a with
    | null => eq_refl
    | bool o | number o | string o | array _ o | object _ o | oneOf _ o | tuple _ o => cases o <;> eq_refl
  | bool p | number p | string p =>
    cases a with
    | null => cases p <;> eq_refl
    | bool o | number o | string o => cases o <;> cases p <;> eq_refl
    | array _ o | object _ o | oneOf _ o | tuple _ o => cases o <;> eq_refl
  | array | object | oneOf | tuple => cases hb

theorem sub_array (a u : Shape) (p : Bool) : isSubset a (.array u p) =
    match a with
    | .null => p
    | .array t o => (!o || p) && isSubset t u
    | .tuple es o => (!o || p) && es.all (isSubset · u)
    | _ => false := by
  cases a with
  | null => cases p <;> eq_refl
  | array _ o | tuple _ o => cases o <;> cases p <;> eq_refl
  | bool o | number o | string o | object _ o | oneOf _ o => cases o <;> eq_refl

theorem sub_tuple (a : Shape) (os : List Shape) (p : Bool) : isSubset a (.tuple os p) =
    match a with
    | .null => p
    | .tuple es o => (!o || p) && (zipAllSubset es os && es.length == os.length)
    | _ => false := by
  cases a with
  | null => cases p <;> eq_refl
  | tuple _ o => cases o <;> cases p <;> eq_refl
  | bool o | number o | string o | array _ o | object _ o | oneOf _ o => cases o <;> eq_refl

theorem sub_object (a : Shape) (oc : Members) (p : Bool) : isSubset a (.object oc p) =
    match a with
    | .null => p
    | .object c o => (!o || p) && objSub c oc
    | _ => false := by
  cases a with
  | null => cases p <;> eq_refl
  | object _ o => cases o <;> cases p <;> eq_refl
  | bool o | number o | string o | array _ o | oneOf _ o | tuple _ o => cases o <;> eq_refl

theorem sub_oneOf (a : Shape) (ws : List Shape) (p : Bool) : isSubset a (.oneOf ws p) =
    match a with
    | .null => p || setContains .null ws
    | .bool o => (!o && isOneOfBool (.oneOf ws p)) || isOneOfOptBool (.oneOf ws p)
    | .number o => (!o && isOneOfNumber (.oneOf ws p)) || isOneOfOptNumber (.oneOf ws p)
    | .string o => (!o && isOneOfString (.oneOf ws p)) || isOneOfOptString (.oneOf ws p)
    | .array t o => if o then anyNullOkSuperset (.array t false) (p || setContains .null ws) ws
        else anySuperset (.array t false) ws
    | .tuple es o => if o then anyNullOkSuperset (.tuple es false) (p || setContains .null ws) ws
        else anySuperset (.tuple es false) ws
    | .object c o => if o then anyNullOkSuperset (.object c false) (p || setContains .null ws) ws
        else anyObjectSuperset (.object c false) ws
    | .oneOf vs o => (!o || p) && (setIsSubset vs ws || vs.all (anySuperset · ws)) := by
  cases a with
  | null => cases p <;> eq_refl
  | oneOf _ o => cases o <;> cases p <;> eq_refl
  | bool o | number o | string o | array _ o | object _ o | tuple _ o => cases o <;> eq_refl

theorem null_sub (b : Shape) : isSubset .null b = nullableSyn b := by
  cases b with
  | null => eq_refl
  | bool p | number p | string p | array _ p | object _ p | oneOf _ p | tuple _ p => cases p <;> eq_refl

theorem sub_array_array (t u : Shape) (o p : Bool) :
    isSubset (.array t o) (.array u p) = ((!o || p) && isSubset t u) := sub_array ..

theorem sub_tuple_array (es : List Shape) (u : Shape) (o p : Bool) :
    isSubset (.tuple es o) (.array u p) = ((!o || p) && es.all (isSubset · u)) := sub_array ..

theorem sub_object_object (c oc : Members) (o p : Bool) :
    isSubset (.object c o) (.object oc p) = ((!o || p) && objSub c oc) := sub_object ..

theorem sub_oneOf_oneOf (vs ws : List Shape) (o p : Bool) : isSubset (.oneOf vs o) (.oneOf ws p) =
    ((!o || p) && (setIsSubset vs ws || vs.all (anySuperset · ws))) := sub_oneOf ..

theorem sub_tuple_tuple_iff {es os : List Shape} {o p : Bool} : isSubset (.tuple es o) (.tuple os p) = true ↔
    (o = true → p = true) ∧ Pointwise (fun e o => isSubset e o = true) es os := by
  rw [sub_tuple, Bool.and_eq_true, flag_le, zipAllSubset_iff]

theorem sub_null_inv {s : Shape} (h : isSubset s .null = true) : s = .null := by
  rw [sub_atom rfl] at h
  cases s with
  | null => rfl
  | _ => cases h

theorem sub_array_inv {s t : Shape} {p : Bool} (h : isSubset s (.array t p) = true) :
    (∃ ts ps, s = .array ts ps ∧ isSubset ts t = true ∧ (ps = true → p = true)) ∨
    (∃ es ps, s = .tuple es ps ∧ (∀ e ∈ es, isSubset e t = true) ∧ (ps = true → p = true)) ∨
    (s = .null ∧ p = true) := by
  rw [sub_array] at h
  split at h
  · exact .inr (.inr ⟨rfl, h⟩)
  · rw [Bool.and_eq_true, flag_le] at h
    exact .inl ⟨_, _, rfl, h.2, h.1⟩
  · rw [Bool.and_eq_true, flag_le, List.all_eq_true] at h
    exact .inr (.inl ⟨_, _, rfl, h.2, h.1⟩)
  · cases h

theorem sub_tuple_inv {s : Shape} {os : List Shape} {p : Bool} (h : isSubset s (.tuple os p) = true) :
    (∃ es ps, s = .tuple es ps ∧ Pointwise (fun e o => isSubset e o = true) es os ∧ (ps = true → p = true)) ∨
    (s = .null ∧ p = true) := by
  rw [sub_tuple] at h
  split at h
  · exact .inr ⟨rfl, h⟩
  · rw [Bool.and_eq_true, flag_le, zipAllSubset_iff] at h
    exact .inl ⟨_, _, rfl, h.2, h.1⟩
  · cases h

theorem sub_object_inv {s : Shape} {oc : Members} {p : Bool} (h : isSubset s (.object oc p) = true) :
    (∃ c ps, s = .object c ps ∧ objSub c oc = true ∧ (ps = true → p = true)) ∨ (s = .null ∧ p = true) := by
  rw [sub_object] at h
  split at h
  · exact .inr ⟨rfl, h⟩
  · rw [Bool.and_eq_true, flag_le] at h
    exact .inl ⟨_, _, rfl, h.2, h.1⟩
  · cases h

theorem null_sub_nonOneOf {x : Shape} (hx : x.isOneOf = false) : isSubset .null x = x.isOptional := by
  rw [null_sub, nullableSyn_simple hx]

theorem scalar_sub_nonOneOf {s x : Shape} (hs : s.isScalar = true) (hx : x.isOneOf = false) :
    isSubset s x = (x.tag == s.tag && (!s.isOptional || x.isOptional)) := by
  induction x using Shape.indAtom with
  | atom x ha =>
    rw [sub_atom ha, isScalar_not_null hs, Bool.false_and, Bool.false_or, Bool.beq_comm]
  | array | tuple | object =>
    simp only [sub_array, sub_tuple, sub_object]
    cases s <;> first | contradiction | rfl
  | oneOf => cases hx

theorem container_sub_atom {s x : Shape} (hs : s.isContainer = true) (hx : x.isAtom = true) :
    isSubset s x = false := by
  rw [sub_atom hx]
  cases s <;> cases hs <;> cases x <;> first | contradiction | rfl

theorem container_sub_nonOneOf {s x : Shape} (hs : s.isContainer = true) (hx : x.isOneOf = false) :
    isSubset s x = ((!s.isOptional || x.isOptional) && isSubset s.asNonOptional x.asNonOptional) := by
  induction x using Shape.indAtom with
  | atom x ha =>
    have : isSubset s.asNonOptional x.asNonOptional = false :=
      container_sub_atom ((isContainer_withOptional _ _).trans hs) ((isAtom_withOptional _ _).trans ha)
    rw [container_sub_atom hs ha, this, Bool.and_false]
  | array | tuple | object =>
    cases s <;>
      first | contradiction | simp [sub_array, sub_tuple, sub_object, asNonOptional, withOptional, isOptional]
  | oneOf => cases hx

theorem container_sub_withOptional {s x : Shape} (hs : s.isContainer = true) (hx : x.isOneOf = false) (q : Bool) :
    isSubset s.asNonOptional (withOptional q x) = isSubset s.asNonOptional x.asNonOptional := by
  have hso : s.asNonOptional.isOptional = false := by
    cases s with
    | array | tuple | object => rfl
    | _ => cases hs
  rw [container_sub_nonOneOf (s := s.asNonOptional) (x := withOptional q x)
    ((isContainer_withOptional _ _).trans hs) ((isOneOf_withOptional _ _).trans hx), hso]
  simp only [asNonOptional, withOptional_withOptional, Bool.not_false, Bool.true_or, Bool.true_and]

theorem oneOf_sub_nonOneOf {x : Shape} (hx : x.isOneOf = false) (vs : List Shape) (o : Bool) :
    isSubset (.oneOf vs o) x = false := by
  cases x with
  | oneOf => cases hx
  | _ => cases o <;> rfl

theorem null_sub_oneOf (ws : List Shape) (p : Bool) :
    isSubset .null (.oneOf ws p) = (p || setContains .null ws) := sub_oneOf ..

/-- `IsOneOf<T>` or `IsOneOf<Optional<T>>`: the scalar's own non-optional form is a variant, or some
variant has its constructor and `Null` is a variant; the flag of the union does not count -/
theorem scalar_sub_oneOf {s : Shape} (hs : s.isScalar = true) (ws : List Shape) (p : Bool) :
    isSubset s (.oneOf ws p) = ((!s.isOptional && setContains s.asNonOptional ws)
      || (ws.any (·.tag == s.tag) && setContains .null ws)) := by
  cases s with
  | bool o | number o | string o =>
    rw [sub_oneOf]
    simp only [isOneOfBool, isOneOfOptBool, isOneOfNumber, isOneOfOptNumber, isOneOfString, isOneOfOptString,
      setContains, asNonOptional, withOptional, isOptional]
    -- the `IsOneOf<T>` helpers are these two `any`s, variant by variant
    congr 2 <;> refine List.any_congr rfl fun v => ?_
    · cases v with
      | bool q | number q | string q => cases q <;> eq_refl
      | _ => eq_refl
    · cases v <;> eq_refl
  | _ => cases hs

/-- some variant is above the container's non-optional form; an optional container also needs the
flag of the union, a `Null` variant or that variant's own flag; a non-optional object does not
look into variants that are themselves `OneOf` (the `filter` on `Object` in `subset.rs`) -/
theorem container_sub_oneOf {s : Shape} (hs : s.isContainer = true) (ws : List Shape) (p : Bool) :
    isSubset s (.oneOf ws p) = ws.any fun v =>
      (!s.isOptional || (p || setContains .null ws) || v.isOptional) && (!s.isObject || s.isOptional || !v.isOneOf)
        && isSubset s.asNonOptional v := by
  cases s with
  | array _ o | tuple _ o | object _ o =>
    cases o <;>
      simp [sub_oneOf, anySuperset_eq, anyNullOkSuperset_eq, anyObjectSuperset_eq, asNonOptional,
        withOptional, isOptional, isObject]
    -- what remains: the non-optional object, whose arm filters object variants; an object is below no
    -- other variant that is not a `OneOf`
    all_goals exact List.any_congr rfl fun v => by cases v <;> rfl
  | _ => cases hs

end ShapeVerif
