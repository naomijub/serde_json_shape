/-
One lexer step on a valid lexeme (completeness, step level): on the text of a valid RFC 8259 lexeme
followed by something that cannot extend it, `lexOne` returns exactly that lexeme and `check_string`
raises nothing.
-/
import ShapeVerif.Lemmas.LexRun
import ShapeVerif.Lemmas.Spell
namespace ShapeVerif

/-- the first character of a number opens no other arm of `lexOne` -/
theorem numLead_other {c : Char} (hc : c = '-' ∨ isDigitC c = true) :
    isWsChar c = false ∧ isAlphaC c = false ∧ (c == '\n') = false ∧ (c == '\r') = false ∧ (c == '{') = false ∧
      (c == '}') = false ∧ (c == '[') = false ∧ (c == ']') = false ∧ (c == ',') = false ∧ (c == ':') = false ∧
      (c == '"') = false := by
  rcases hc with rfl | hd
  · decide
  · have ne : ∀ x : Char, isDigitC x = false → (c == x) = false := fun x hx =>
      beq_eq_false_iff_ne.2 (fun e => by rw [e, hx] at hd; cases hd)
    refine ⟨?_, ?_, ne _ rfl, ne _ rfl, ne _ rfl, ne _ rfl, ne _ rfl, ne _ rfl, ne _ rfl, ne _ rfl, ne _ rfl⟩
    · simp only [isWsChar, Bool.or_eq_false_iff]; exact ⟨ne _ rfl, ne _ rfl⟩
    · simp only [isDigitC, Bool.and_eq_true, decide_eq_true_eq] at hd
      have h9 := toNat_le_of_le hd.2
      have e9 : ('9' : Char).toNat = 57 := rfl
      simp only [isAlphaC, Bool.or_eq_false_iff, Bool.and_eq_false_iff, decide_eq_false_iff_not]
      have ea : ('a' : Char).toNat = 97 := rfl
      have eA : ('A' : Char).toNat = 65 := rfl
      constructor
      · exact .inl fun h => by have := toNat_le_of_le h; omega
      · exact .inl fun h => by have := toNat_le_of_le h; omega

theorem lexOne_number {inp n rest : List Char} (h : scanNumber inp = some (n, rest)) :
    lexOne inp = (.number, none, n, rest) := by
  obtain ⟨hs, c, tl, rfl, hc⟩ := scanNumber_split h
  rw [List.cons_append] at hs
  subst hs
  -- the first character closes every arm before the one that calls `scanNumber`
  simp only [lexOne, numLead_other hc, Bool.false_eq_true, if_false, h]

theorem ValueFollow.notAlnum {rest : List Char} (h : ValueFollow rest) : HeadNot isAlnumC rest := fun c hc =>
  (by decide : ∀ c ∈ [' ', '\t', '\n', '\r', ',', ']', '}'], isAlnumC c = false) c (h.mem c hc)

theorem lexOne_literal {k : Tok} {c : Char} {w rest : List Char} (hk : k = .true_ ∨ k = .false_ ∨ k = .null_)
    (hw : fixedText k = some (c :: w)) (hr : HeadNot isAlnumC rest) :
    lexOne (c :: w ++ rest) = (k, none, c :: w, rest) := by
  have htw : takeWhileC isAlnumC (w ++ rest) = (w, rest) :=
    takeWhileC_prefix (by rcases hk with rfl | rfl | rfl <;> (cases hw; decide)) hr
  rw [List.cons_append]
  unfold lexOne
  rw [htw]
  rcases hk with rfl | rfl | rfl <;> (cases hw; rfl)

theorem lexOne_complete {k : Tok} {txt rest : List Char} (hk : isGrammarKind k = true)
    (hv : lexemeOk k txt = true) (hf : needsFollow k = true → ValueFollow rest) :
    lexOne (txt ++ rest) = (k, none, txt, rest) ∧ ∀ pos, strDiags k pos txt = [] := by
  cases k
  case eof | error | ws | nl => cases hk
  case lbrace | rbrace | lbrak | rbrak | comma | colon =>
    cases (lexemeOk_fixed rfl).1 hv
    exact ⟨rfl, fun _ => rfl⟩
  case true_ | false_ | null_ =>
    cases (lexemeOk_fixed rfl).1 hv
    exact ⟨lexOne_literal (by simp) rfl (hf rfl).notAlnum, fun _ => rfl⟩
  case number =>
    have hnum : Rfc.number txt = some (txt, []) := by simpa [lexemeOk] using hv
    exact ⟨lexOne_number (scanNumber_follow hnum (hf rfl)), fun _ => rfl⟩
  case string =>
    obtain ⟨s, rfl, hs⟩ := lexemeOk_string.1 hv
    have e : lexOne ('"' :: s ++ ['"'] ++ rest) =
        (if (scanString (s ++ '"' :: rest)).2.2 = true
          then (.string, none, '"' :: (scanString (s ++ '"' :: rest)).1, (scanString (s ++ '"' :: rest)).2.1)
          else (.error, some .unterminated, '"' :: (scanString (s ++ '"' :: rest)).1, (scanString (s ++ '"' :: rest)).2.1)) := by
      simp only [List.cons_append, List.append_assoc, List.nil_append]
      rfl
    refine ⟨by rw [e, scanString_body hs]; rfl, fun pos => ?_⟩
    show checkString pos ('"' :: s ++ ['"']) = []
    rw [List.cons_append, checkString_quote]
    exact checkString_body pos hs _

end ShapeVerif
