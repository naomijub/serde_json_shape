/-
`Rfc.parse` (the executable recursive-descent reading of RFC 8259 that the run-time oracle uses) is
sound for the specification `JsonTextVia` that `accept_iff` is stated against: whenever it returns a
document, the text can be cut into lexemes whose non-whitespace part derives that document in the
token grammar (scalar payloads erased, member names unescaped — `specDoc`).
The readers are followed from the front of the text: each run turns any spelling (`Spell`) of what it
leaves into a spelling of what it was given, so no offset of a lexeme is ever computed (positions are
only threaded, through `At`).
-/
import ShapeVerif.Lemmas.Spell
namespace ShapeVerif
open Rfc

mutual
/-- what the specification keeps of a document: no scalar payloads, member names as the text path
reads them (`memberName` of the quoted source text) -/
def specDoc : Doc → Doc
  | .null => .null
  | .bool _ => .bool false
  | .num _ => .num ""
  | .str _ => .str ""
  | .arr xs => .arr (specDocs xs)
  | .obj ms => .obj (specMembers ms)
def specDocs : List Doc → List Doc
  | [] => []
  | x :: xs => specDoc x :: specDocs xs
def specMembers : List (String × Doc) → List (String × Doc)
  | [] => []
  | (k, v) :: ms => (memberName ('"' :: k.toList ++ ['"']), specDoc v) :: specMembers ms
end

theorem skipWs_split : ∀ cs : List Char, ∃ w, cs = w ++ skipWs cs ∧ allWs w
  | [] => ⟨[], rfl, allWs_nil⟩
  | c :: cs => by
    by_cases hc : isWs c = true
    · obtain ⟨w, h1, h2⟩ := skipWs_split cs
      refine ⟨c :: w, ?_, allWs_cons.2 ⟨hc, h2⟩⟩
      simp only [skipWs, hc, if_true, List.cons_append]
      rw [← h1]
    · exact ⟨[], by simp [skipWs, hc], allWs_nil⟩

/-- a lexeme found after whitespace is the next token of any spelling of the text -/
theorem spell_lexeme {src : List Char} {pos : Nat} {k : Tok} {cs txt rest : List Char} (ha : At src pos cs)
    (e : skipWs cs = txt ++ rest) (hk : isGrammarKind k = true) (hv : lexemeOk k txt = true) :
    ∃ t : Token, t.kind = k ∧ keyOf src t = memberName txt ∧ At src t.stop rest ∧
      ∀ nts, Spell t.stop nts rest → Spell pos (t :: nts) cs := by
  obtain ⟨w, hw, hws⟩ := skipWs_split cs
  rw [e] at hw
  subst hw
  have ha1 := ha.advance
  refine ⟨⟨k, pos + utf8Len w, pos + utf8Len w + utf8Len txt⟩, rfl, ?_, ha1.advance, fun nts h => ?_⟩
  · unfold keyOf
    rw [ha1.slice]
  · rw [← List.append_assoc]
    exact Spell.tok hws rfl rfl hk hv h

theorem lexemeOk_of_stringBody {r s r' : List Char} (h : stringBody r = some (s, r')) :
    '"' :: r = ('"' :: s ++ ['"']) ++ r' ∧ lexemeOk .string ('"' :: s ++ ['"']) = true := by
  obtain ⟨hb, rfl⟩ := stringBody_sound h
  exact ⟨by simp, lexemeOk_string.2 ⟨s, rfl, hb⟩⟩

/-- the ways one call of `value` returns -/
inductive ValueStep (fuel : Nat) : List Char → Doc → List Char → Prop
  | tru {rest : List Char} : ValueStep fuel ('t' :: 'r' :: 'u' :: 'e' :: rest) (.bool true) rest
  | fls {rest : List Char} : ValueStep fuel ('f' :: 'a' :: 'l' :: 's' :: 'e' :: rest) (.bool false) rest
  | null {rest : List Char} : ValueStep fuel ('n' :: 'u' :: 'l' :: 'l' :: rest) .null rest
  | str {r s rest : List Char} : stringBody r = some (s, rest) → ValueStep fuel ('"' :: r) (.str (String.ofList s)) rest
  | arrE {r rest : List Char} : skipWs r = ']' :: rest → ValueStep fuel ('[' :: r) (.arr []) rest
  | arr {r rest : List Char} {xs : List Doc} : elements fuel (skipWs r) = some (xs, rest) →
      ValueStep fuel ('[' :: r) (.arr xs) rest
  | objE {r rest : List Char} : skipWs r = '}' :: rest → ValueStep fuel ('{' :: r) (.obj []) rest
  | obj {r rest : List Char} {ms : List (String × Doc)} : members fuel (skipWs r) = some (ms, rest) →
      ValueStep fuel ('{' :: r) (.obj ms) rest
  | num {cs n rest : List Char} : number cs = some (n, rest) → ValueStep fuel cs (.num (String.ofList n)) rest

theorem value_inv {fuel : Nat} {cs rest : List Char} {d : Doc} (h : value (fuel + 1) cs = some (d, rest)) :
    ValueStep fuel cs d rest := by
  unfold value at h
  split at h
  · cases h
    exact .tru
  · cases h
    exact .fls
  · cases h
    exact .null
  · split at h
    next hs =>
      cases h
      exact .str hs
    next => cases h
  · split at h
    next hsk =>
      cases h
      exact .arrE hsk
    next =>
      split at h
      next he =>
        cases h
        exact .arr he
      next => cases h
  · split at h
    next hsk =>
      cases h
      exact .objE hsk
    next =>
      split at h
      next hm =>
        cases h
        exact .obj hm
      next => cases h
  · split at h
    next hn =>
      cases h
      exact .num hn
    next => cases h

theorem elements_inv {fuel : Nat} {cs rest : List Char} {xs : List Doc} (h : elements (fuel + 1) cs = some (xs, rest)) :
    ∃ x r, value fuel cs = some (x, r) ∧
      ((skipWs r = ']' :: rest ∧ xs = [x]) ∨
       (∃ r' ys, skipWs r = ',' :: r' ∧ elements fuel (skipWs r') = some (ys, rest) ∧ xs = x :: ys)) := by
  unfold elements at h
  split at h
  next => cases h
  next x r hv =>
    refine ⟨x, r, hv, ?_⟩
    split at h
    next hsk =>
      cases h
      exact .inl ⟨hsk, rfl⟩
    next hsk =>
      split at h
      next he =>
        cases h
        exact .inr ⟨_, _, hsk, he, rfl⟩
      next => cases h
    next => cases h

theorem members_inv {fuel : Nat} {cs rest : List Char} {ms : List (String × Doc)}
    (h : members (fuel + 1) cs = some (ms, rest)) :
    ∃ r k r1 r2 v r3, cs = '"' :: r ∧ stringBody r = some (k, r1) ∧ skipWs r1 = ':' :: r2 ∧
      value fuel (skipWs r2) = some (v, r3) ∧
      ((skipWs r3 = '}' :: rest ∧ ms = [(String.ofList k, v)]) ∨
       (∃ r4 ns, skipWs r3 = ',' :: r4 ∧ members fuel (skipWs r4) = some (ns, rest) ∧ ms = (String.ofList k, v) :: ns)) := by
  unfold members at h
  split at h
  next =>
    split at h
    next => cases h
    next hs =>
      split at h
      next hsk =>
        split at h
        next => cases h
        next hv =>
          refine ⟨_, _, _, _, _, _, rfl, hs, hsk, hv, ?_⟩
          split at h
          next hsk2 =>
            cases h
            exact .inl ⟨hsk2, rfl⟩
          next hsk2 =>
            split at h
            next hm =>
              cases h
              exact .inr ⟨_, _, hsk2, hm, rfl⟩
            next => cases h
          next => cases h
      next => cases h
  next => cases h

variable {src : List Char}

/-- every reader is entered after whitespace -/
theorem value_sound (fuel : Nat) :
    (∀ cs d cs', value fuel (skipWs cs) = some (d, cs') → ∀ pos, At src pos cs →
      ∃ ph p, TValue (keyOf src) ph (specDoc d) ∧ At src p cs' ∧ ∀ nts, Spell p nts cs' → Spell pos (ph ++ nts) cs) ∧
    (∀ cs xs cs', elements fuel (skipWs cs) = some (xs, cs') → ∀ pos, At src pos cs →
      ∃ ts rt p, TElems (keyOf src) ts (specDocs xs) ∧ rt.kind = .rbrak ∧ At src p cs' ∧
        ∀ nts, Spell p nts cs' → Spell pos (ts ++ rt :: nts) cs) ∧
    (∀ cs ms cs', members fuel (skipWs cs) = some (ms, cs') → ∀ pos, At src pos cs →
      ∃ ts rt p, TMembers (keyOf src) ts (specMembers ms) ∧ rt.kind = .rbrace ∧ At src p cs' ∧
        ∀ nts, Spell p nts cs' → Spell pos (ts ++ rt :: nts) cs) := by
  induction fuel with
  | zero =>
    refine ⟨?_, ?_, ?_⟩ <;> intro _ _ _ h <;> simp [value, elements, members] at h
  | succ fuel ih =>
    obtain ⟨ihV, ihE, ihM⟩ := ih
    refine ⟨?_, ?_, ?_⟩
    · intro cs d cs' h pos ha
      have leaf : ∀ {k : Tok} {txt : List Char} {d : Doc}, skipWs cs = txt ++ cs' → isGrammarKind k = true →
          lexemeOk k txt = true → (∀ t : Token, t.kind = k → TValue (keyOf src) [t] d) →
          ∃ ph p, TValue (keyOf src) ph d ∧ At src p cs' ∧ ∀ nts, Spell p nts cs' → Spell pos (ph ++ nts) cs := by
        intro k txt d e hk hv hd
        obtain ⟨t, htk, _, ha1, K⟩ := spell_lexeme ha e hk hv
        exact ⟨[t], _, hd t htk, ha1, K⟩
      generalize e : skipWs cs = cs0 at h
      cases value_inv h with
      | tru => exact leaf (k := .true_) (txt := ['t', 'r', 'u', 'e']) e rfl rfl fun _ => .tru
      | fls => exact leaf (k := .false_) (txt := ['f', 'a', 'l', 's', 'e']) e rfl rfl fun _ => .fls
      | null => exact leaf (k := .null_) (txt := ['n', 'u', 'l', 'l']) e rfl rfl fun _ => .null
      | str hs =>
        obtain ⟨e', hv⟩ := lexemeOk_of_stringBody hs
        exact leaf (k := .string) (e.trans e') rfl hv fun _ => .str
      | arrE hsk =>
        obtain ⟨l, hl, _, ha1, K1⟩ := spell_lexeme (txt := ['[']) (k := .lbrak) ha e rfl rfl
        obtain ⟨rt, hrt, _, ha2, K2⟩ := spell_lexeme (txt := [']']) (k := .rbrak) ha1 hsk rfl rfl
        exact ⟨[l, rt], _, .arrE hl hrt, ha2, fun nts h => K1 _ (K2 _ h)⟩
      | arr he =>
        obtain ⟨l, hl, _, ha1, K1⟩ := spell_lexeme (txt := ['[']) (k := .lbrak) ha e rfl rfl
        obtain ⟨ts, rt, p, hE, hrt, ha2, K2⟩ := ihE _ _ _ he _ ha1
        exact ⟨l :: ts ++ [rt], p, .arr hl hrt hE, ha2, fun nts h => by simpa using K1 _ (K2 _ h)⟩
      | objE hsk =>
        obtain ⟨l, hl, _, ha1, K1⟩ := spell_lexeme (txt := ['{']) (k := .lbrace) ha e rfl rfl
        obtain ⟨rt, hrt, _, ha2, K2⟩ := spell_lexeme (txt := ['}']) (k := .rbrace) ha1 hsk rfl rfl
        exact ⟨[l, rt], _, .objE hl hrt, ha2, fun nts h => K1 _ (K2 _ h)⟩
      | obj hm =>
        obtain ⟨l, hl, _, ha1, K1⟩ := spell_lexeme (txt := ['{']) (k := .lbrace) ha e rfl rfl
        obtain ⟨ts, rt, p, hM, hrt, ha2, K2⟩ := ihM _ _ _ hm _ ha1
        exact ⟨l :: ts ++ [rt], p, .obj hl hrt hM, ha2, fun nts h => by simpa using K1 _ (K2 _ h)⟩
      | num hn =>
        obtain ⟨e1, e2⟩ := number_self hn
        exact leaf (k := .number) (e.trans e1) rfl (by simp [lexemeOk, e2]) fun _ => .num
    · intro cs xs cs' h pos ha
      obtain ⟨x, r, hv, hcase⟩ := elements_inv h
      obtain ⟨ph, p1, hV, ha1, K1⟩ := ihV _ _ _ hv _ ha
      rcases hcase with ⟨hsk, rfl⟩ | ⟨r', ys, hsk, he, rfl⟩
      · obtain ⟨rt, hrt, _, ha2, K2⟩ := spell_lexeme (txt := [']']) (k := .rbrak) ha1 hsk rfl rfl
        exact ⟨ph, rt, _, .one hV, hrt, ha2, fun nts h => K1 _ (K2 _ h)⟩
      · obtain ⟨c, hc, _, ha2, K2⟩ := spell_lexeme (txt := [',']) (k := .comma) ha1 hsk rfl rfl
        obtain ⟨ts, rt, p, hE, hrt, ha3, K3⟩ := ihE _ _ _ he _ ha2
        exact ⟨ph ++ c :: ts, rt, p, .cons hc hV hE, hrt, ha3, fun nts h => by simpa using K1 _ (K2 _ (K3 _ h))⟩
    · intro cs ms cs' h pos ha
      obtain ⟨r, k, r1, r2, v, r3, e, hsb, hcol, hv, hcase⟩ := members_inv h
      obtain ⟨e', hlex⟩ := lexemeOk_of_stringBody hsb
      obtain ⟨kt, hkt, hkey, ha1, K1⟩ := spell_lexeme ha (e.trans e') rfl hlex
      obtain ⟨ct, hct, _, ha2, K2⟩ := spell_lexeme (txt := [':']) (k := .colon) ha1 hcol rfl rfl
      obtain ⟨ph, p3, hV, ha3, K3⟩ := ihV _ _ _ hv _ ha2
      have hkey' : memberName ('"' :: (String.ofList k).toList ++ ['"']) = keyOf src kt := by
        rw [hkey]
        simp
      rcases hcase with ⟨hsk, rfl⟩ | ⟨r4, ns, hsk, hm, rfl⟩ <;> simp only [specMembers, hkey']
      · obtain ⟨rt, hrt, _, ha4, K4⟩ := spell_lexeme (txt := ['}']) (k := .rbrace) ha3 hsk rfl rfl
        exact ⟨kt :: ct :: ph, rt, _, .one hkt hct hV, hrt, ha4, fun nts h => K1 _ (K2 _ (K3 _ (K4 _ h)))⟩
      · obtain ⟨m, hm', _, ha4, K4⟩ := spell_lexeme (txt := [',']) (k := .comma) ha3 hsk rfl rfl
        obtain ⟨ts, rt, p, hM, hrt, ha5, K5⟩ := ihM _ _ _ hm _ ha4
        exact ⟨kt :: ct :: ph ++ m :: ts, rt, p, .cons hkt hct hm' hV hM, hrt, ha5,
          fun nts h => by simpa using K1 _ (K2 _ (K3 _ (K4 _ (K5 _ h))))⟩

/-- (of `Rfc.parse`, not the model's `parse`) the oracle accepts only what the specification accepts -/
theorem parse_sound (cs : List Char) (d : Doc) (h : Rfc.parse cs = some d) : JsonText cs (specDoc d) := by
  unfold Rfc.parse at h
  cases hv : value (cs.length + 1) (skipWs cs) with
  | none => simp [hv] at h
  | some p =>
    obtain ⟨d', r⟩ := p
    simp only [hv] at h
    split at h
    · rename_i hend
      obtain rfl : d' = d := by simpa using h
      obtain ⟨ph, p, hV, _, K⟩ := (value_sound (src := cs) _).1 _ _ _ hv 0 ⟨[], rfl, rfl⟩
      obtain ⟨w, hw, hws⟩ := skipWs_split r
      rw [List.isEmpty_iff.1 hend, List.append_nil] at hw
      obtain ⟨toks, ht, hsig⟩ := tiles_of_spell (K [] (.done (hw ▸ hws)))
      rw [List.append_nil] at hsig
      rw [← hsig] at hV
      exact ⟨toks, ht, hV⟩
    · cases h

end ShapeVerif
