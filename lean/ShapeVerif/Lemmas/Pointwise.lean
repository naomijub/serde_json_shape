/-
Positional relation between two lists, and what follows from it without looking at the relation.
-/
namespace ShapeVerif

def Pointwise {α β : Type} (R : α → β → Prop) : List α → List β → Prop
  | [], [] => True
  | a :: as, b :: bs => R a b ∧ Pointwise R as bs
  | _, _ => False

namespace Pointwise
variable {α β γ : Type} {R Q : α → β → Prop}

/-- induction along a related pair of lists: the lists have the same length, so only `[]`, `[]` and two
conses arise -/
@[elab_as_elim]
theorem ind {motive : List α → List β → Prop} (nil : motive [] [])
    (cons : ∀ {a b as bs}, R a b → Pointwise R as bs → motive as bs → motive (a :: as) (b :: bs)) :
    ∀ {as : List α} {bs : List β}, Pointwise R as bs → motive as bs
  | [], [], _ => nil
  | [], _ :: _, h | _ :: _, [], h => h.elim
  | _ :: _, _ :: _, h => cons h.1 h.2 (ind nil cons h.2)

theorem refl {R : α → α → Prop} : ∀ {l : List α}, (∀ a ∈ l, R a a) → Pointwise R l l
  | [], _ => trivial
  | a :: l, h => ⟨h a (by simp), refl fun x hx => h x (by simp [hx])⟩

theorem length_eq {as : List α} {bs : List β} (h : Pointwise R as bs) : as.length = bs.length :=
  h.ind rfl fun _ _ ih => congrArg (· + 1) ih

theorem mem_left {as : List α} {bs : List β} (h : Pointwise R as bs) : ∀ a ∈ as, ∃ b ∈ bs, R a b :=
  h.ind nofun fun {_ b _ _} hr _ ih a ha =>
    (List.mem_cons.1 ha).elim (fun e => ⟨b, List.mem_cons_self, e ▸ hr⟩) fun ha =>
      let ⟨b', hb', hr'⟩ := ih a ha
      ⟨b', List.mem_cons_of_mem _ hb', hr'⟩

theorem flip {as : List α} {bs : List β} (h : Pointwise R as bs) : Pointwise (fun b a => R a b) bs as :=
  h.ind trivial fun hr _ ih => ⟨hr, ih⟩

theorem mem_right {as : List α} {bs : List β} (h : Pointwise R as bs) : ∀ b ∈ bs, ∃ a ∈ as, R a b :=
  h.flip.mem_left

theorem imp_mem {as : List α} {bs : List β} (h : Pointwise R as bs) :
    (∀ a ∈ as, ∀ b ∈ bs, R a b → Q a b) → Pointwise Q as bs :=
  h.ind (fun _ => trivial) fun hr _ ih f =>
    ⟨f _ List.mem_cons_self _ List.mem_cons_self hr,
      ih fun a ha b hb => f a (List.mem_cons_of_mem _ ha) b (List.mem_cons_of_mem _ hb)⟩

/-- composition; the step may use where its three elements come from -/
theorem comp {S : β → γ → Prop} {T : α → γ → Prop} {as : List α} {bs : List β} (h : Pointwise R as bs) :
    ∀ ⦃cs : List γ⦄, Pointwise S bs cs → (∀ a ∈ as, ∀ b ∈ bs, ∀ c ∈ cs, R a b → S b c → T a c) →
    Pointwise T as cs :=
  h.ind (fun cs h2 _ => by cases cs with | nil => trivial | cons => exact h2.elim) fun hr _ ih cs h2 f => by
    cases cs with
    | nil => exact h2.elim
    | cons c cs =>
      exact ⟨f _ List.mem_cons_self _ List.mem_cons_self c List.mem_cons_self hr h2.1,
        ih h2.2 fun a ha b hb c hc => f a (List.mem_cons_of_mem _ ha) b (List.mem_cons_of_mem _ hb) c
          (List.mem_cons_of_mem _ hc)⟩

/-- a pointwise equation between images is an equation between mapped lists (so that `List.map`'s
lemmas about `++`, `replicate`, … apply) -/
theorem map_eq_iff {f : α → γ} {g : β → γ} : ∀ {as : List α} {bs : List β},
    Pointwise (fun a b => f a = g b) as bs ↔ as.map f = bs.map g
  | [], [] => by simp [Pointwise]
  | [], _ :: _ => by simp [Pointwise]
  | _ :: _, [] => by simp [Pointwise]
  | _ :: as, _ :: bs => by simp [Pointwise, map_eq_iff (as := as)]

theorem congr_at {x y : α} (h : ∀ b, R x b ↔ R y b) (post : List α) :
    ∀ (pre : List α) (bs : List β), Pointwise R (pre ++ x :: post) bs ↔ Pointwise R (pre ++ y :: post) bs
  | [], [] => Iff.rfl
  | [], b :: _ => and_congr_left' (h b)
  | _ :: _, [] => Iff.rfl
  | _ :: pre, _ :: _ => and_congr_right' (congr_at h post pre _)

end Pointwise
end ShapeVerif
