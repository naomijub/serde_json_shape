/-
`parse_cst` on any tree whose leaves are an ordered chain of well-formed tokens: no slice ever falls
outside the text or inside a character (no panic), and every `InvalidJson` error carries exactly the
text at its range.
-/
import ShapeVerif.Lemmas.LexInv
import ShapeVerif.Lemmas.ParseYield
namespace ShapeVerif
open Shape

/-- `LexOk` without the diagnostics, on a bare list: what `parse_cst` needs of the leaves of a tree -/
def ListOk (src : List Char) (l : List Token) : Prop :=
  (∀ t ∈ l, TokOk src t) ∧ l.Pairwise (fun a b => a.stop ≤ b.start)

theorem LexOk.listOk {src : List Char} {r : LexResult} (h : LexOk src r) : ListOk src r.tokens := ⟨h.toks, h.chain⟩

theorem ListOk.nil (src : List Char) : ListOk src [] := ⟨by simp, List.Pairwise.nil⟩

theorem ListOk.append_left {src : List Char} {a b : List Token} (h : ListOk src (a ++ b)) : ListOk src a :=
  ⟨fun t ht => h.1 t (by simp [ht]), (List.pairwise_append.1 h.2).1⟩

theorem ListOk.append_right {src : List Char} {a b : List Token} (h : ListOk src (a ++ b)) : ListOk src b :=
  ⟨fun t ht => h.1 t (by simp [ht]), (List.pairwise_append.1 h.2).2.1⟩

mutual
theorem firstTokStart_leaves : ∀ node : Node, firstTokStart node = (leaves node).head?.map (·.start)
  | .tok _ _ _ => rfl
  | .rule _ cs => by simp only [firstTokStart, leaves]; exact firstTokStartList_leaves cs
theorem firstTokStartList_leaves : ∀ ns : List Node, firstTokStartList ns = (leavesList ns).head?.map (·.start)
  | [] => rfl
  | a :: l => by
    simp only [firstTokStartList, leavesList]
    rw [firstTokStart_leaves a, firstTokStartList_leaves l]
    cases leaves a <;> simp
end

mutual
theorem lastTokStop_leaves : ∀ node : Node, lastTokStop node = (leaves node).getLast?.map (·.stop)
  | .tok _ _ _ => rfl
  | .rule _ cs => by simp only [lastTokStop, leaves]; exact lastTokStopList_leaves cs
theorem lastTokStopList_leaves : ∀ ns : List Node, lastTokStopList ns = (leavesList ns).getLast?.map (·.stop)
  | [] => rfl
  | a :: l => by
    simp only [lastTokStopList, leavesList]
    rw [lastTokStop_leaves a, lastTokStopList_leaves l]
    cases h : leavesList l with
    | nil => simp
    | cons t ts =>
      cases hg : (t :: ts).getLast? with
      | none => simp at hg
      | some b => simp [List.getLast?_append, hg]
end

theorem chain_first_le_last {src : List Char} : ∀ {l : List Token} {a b : Token}, ListOk src l →
    l.head? = some a → l.getLast? = some b → a.start ≤ b.stop
  | [], _, _, _, h, _ => by simp at h
  | [t], a, b, hl, h1, h2 => by
    have e1 : t = a := by simpa using h1
    have e2 : t = b := by simpa using h2
    subst e1
    subst e2
    have := (hl.1 t (by simp)).lt
    omega
  | t :: u :: l, a, b, hl, h1, h2 => by
    simp only [List.head?_cons, Option.some.injEq] at h1
    subst h1
    have hb : b ∈ u :: l := by
      rw [List.getLast?_cons_cons] at h2
      exact List.mem_of_getLast? h2
    have h3 := (List.pairwise_cons.1 hl.2).1 b hb
    have h4 := (hl.1 b (by simp [hb])).lt
    have h5 := (hl.1 t (by simp)).lt
    omega

def Sliceable (src : List Char) (sp : Nat × Nat) : Prop := ∃ m, sliceBytes src sp.1 sp.2 = some m

theorem nodeSpan_sliceable {src : List Char} {prevEnd : Nat} {node : Node} (hb : Boundary src prevEnd)
    (hl : ListOk src (leaves node)) : Sliceable src (nodeSpan prevEnd node) := by
  cases node with
  | tok k s e =>
    have := hl.1 ⟨k, s, e⟩ (by simp [leaves])
    exact sliceBytes_of_boundaries this.bs this.be (Nat.le_of_lt this.lt)
  | rule r cs =>
    simp only [nodeSpan]
    rw [firstTokStart_leaves, lastTokStop_leaves]
    cases h1 : (leaves (.rule r cs)).head? with
    | none =>
      simpa [Sliceable] using sliceBytes_of_boundaries hb hb (Nat.le_refl _)
    | some a =>
      cases h2 : (leaves (.rule r cs)).getLast? with
      | none =>
        simpa [Sliceable] using sliceBytes_of_boundaries hb hb (Nat.le_refl _)
      | some b =>
        have ha := hl.1 a (List.mem_of_head? h1)
        have hb' := hl.1 b (List.mem_of_getLast? h2)
        simpa [Sliceable] using sliceBytes_of_boundaries ha.bs hb'.be (chain_first_le_last hl h1 h2)

theorem nodeEnd_boundary {src : List Char} {prevEnd : Nat} {node : Node} (hb : Boundary src prevEnd)
    (hl : ListOk src (leaves node)) : Boundary src (nodeEnd prevEnd node) := by
  unfold nodeEnd
  rw [lastTokStop_leaves]
  cases h2 : (leaves node).getLast? with
  | none => simpa using hb
  | some b => simpa using (hl.1 b (List.mem_of_getLast? h2)).be

/-- the outcome is no panic, and an `InvalidJson` carries exactly the text at its range -/
def Good {α : Type} (src : List Char) (o : Outcome α) : Prop :=
  o ≠ .panic ∧ ∀ v s e, o = .err (.invalidJson v s e) → sliceBytes src s e = some v.toList

theorem good_ok {α : Type} (src : List Char) (a : α) : Good src (Outcome.ok a) :=
  ⟨(by intro h; cases h), (by intro v s e h; cases h)⟩

theorem good_err_other {α : Type} (src : List Char) (e : PErr) (h : ∀ v s t, e ≠ .invalidJson v s t) :
    Good src (Outcome.err e : Outcome α) :=
  ⟨(by intro h'; cases h'), (by intro v s t h'; cases h'; exact absurd rfl (h v s t))⟩

theorem invalidJsonAt_good {src : List Char} {sp : Nat × Nat} (h : Sliceable src sp) :
    Good src (invalidJsonAt src sp) := by
  obtain ⟨m, hm⟩ := h
  unfold invalidJsonAt
  rw [hm]
  exact ⟨(by intro h; cases h), (by intro v s e h; cases h; simpa using hm)⟩

theorem findSpan_sliceable {src : List Char} (p : Node → Bool) :
    ∀ (cs : List Node) (prevEnd : Nat) (sp : Nat × Nat), Boundary src prevEnd → ListOk src (leavesList cs) →
      findSpan p prevEnd cs = some sp → Sliceable src sp
  | [], _, _, _, _, h => by simp [findSpan] at h
  | n :: ns, prevEnd, sp, hb, hl, h => by
    simp only [leavesList] at hl
    simp only [findSpan] at h
    split at h
    · cases h
      exact nodeSpan_sliceable hb hl.append_left
    · exact findSpan_sliceable p ns _ sp (nodeEnd_boundary hb hl.append_left) hl.append_right h

theorem hasErrors_good {src : List Char} {cs : List Node} {prevEnd : Nat} (hb : Boundary src prevEnd)
    (hl : ListOk src (leavesList cs)) : Good src (hasErrors src prevEnd cs) := by
  unfold hasErrors
  cases h : findSpan isErrorNode prevEnd cs with
  | none => exact good_ok src ()
  | some sp =>
    obtain ⟨s, e⟩ := sp
    obtain ⟨m, hm⟩ := findSpan_sliceable isErrorNode cs prevEnd (s, e) hb hl h
    simp only at hm ⊢
    rw [hm]
    exact ⟨(by intro h; cases h), (by intro v s e h; cases h; simpa using hm)⟩

theorem leaves_subset_of_mem : ∀ {cs : List Node} {n : Node}, n ∈ cs → ∀ t ∈ leaves n, t ∈ leavesList cs
  | [], _, h, _, _ => by cases h
  | a :: l, n, h, t, ht => by
    simp only [leavesList, List.mem_append]
    rcases List.mem_cons.1 h with rfl | h
    · exact .inl ht
    · exact .inr (leaves_subset_of_mem h t ht)

theorem findNode_spec {src : List Char} (p : Node → Bool) :
    ∀ (cs : List Node) (prevEnd : Nat) (n : Node) (pe : Nat), Boundary src prevEnd → ListOk src (leavesList cs) →
      findNode p prevEnd cs = some (n, pe) → n ∈ cs ∧ p n = true ∧ Boundary src pe
  | [], _, _, _, _, _, h => by simp [findNode] at h
  | a :: l, prevEnd, n, pe, hb, hl, h => by
    simp only [leavesList] at hl
    simp only [findNode] at h
    split at h
    · rename_i hp
      cases h
      exact ⟨by simp, hp, hb⟩
    · obtain ⟨h1, h2, h3⟩ := findNode_spec p l _ n pe (nodeEnd_boundary hb hl.append_left) hl.append_right h
      exact ⟨by simp [h1], h2, h3⟩

theorem listOk_of_mem {src : List Char} {cs : List Node} {n : Node} (hl : ListOk src (leavesList cs))
    (hn : n ∈ cs) : ListOk src (leaves n) := by
  induction cs with
  | nil => cases hn
  | cons a l ih =>
    simp only [leavesList] at hl
    rcases List.mem_cons.1 hn with rfl | h
    · exact hl.append_left
    · exact ih hl.append_right h

theorem parseToken_good (src : List Char) (n : Node) : Good src (parseToken n) := by
  unfold parseToken
  split <;> first | exact good_ok src _ | exact good_err_other src _ (by intro v s t h; cases h)

theorem good_bind {α β : Type} {src : List Char} {o : Outcome α} (ho : Good src o) (f : α → Outcome β)
    (hf : ∀ a, o = .ok a → Good src (f a)) :
    Good src (match o with | .err e => .err e | .panic => .panic | .ok a => f a) := by
  cases o with
  | ok a => exact hf a rfl
  | err e =>
    refine ⟨(by intro h; cases h), ?_⟩
    intro v s t h
    cases h
    exact ho.2 v s t rfl
  | panic => exact absurd rfl ho.1

theorem good_err_cast {α β : Type} {src : List Char} {e : PErr} (h : Good src (Outcome.err e : Outcome α)) :
    Good src (Outcome.err e : Outcome β) :=
  ⟨(by intro h'; cases h'), (by intro v s t h'; cases h'; exact h.2 v s t rfl)⟩

theorem good_bind_unit {β : Type} {src : List Char} {o : Outcome Unit} (ho : Good src o) (x : Outcome β)
    (hx : Good src x) :
    Good src (match o with | .err e => .err e | .panic => .panic | .ok () => x) := by
  cases o with
  | ok a => exact hx
  | err e =>
    refine ⟨(by intro h; cases h), ?_⟩
    intro v s t h
    cases h
    exact ho.2 v s t rfl
  | panic => exact absurd rfl ho.1

theorem good_inferErr {α : Type} (src : List Char) (e : InferErr) :
    Good src (Outcome.err (inferErrToPErr e) : Outcome α) :=
  good_err_other src _ (by intro v s t h; cases e <;> cases h)

theorem cst_good (src : List Char) (n : Nat) :
    (∀ node : Node, sizeOf node ≤ n → ∀ prevEnd, ListOk src (leaves node) → Boundary src prevEnd →
      Good src (parseRule src prevEnd node)) ∧
    (∀ ns : List Node, sizeOf ns ≤ n → ∀ prevEnd, ListOk src (leavesList ns) → Boundary src prevEnd →
      Good src (parseElements src prevEnd ns)) ∧
    (∀ ns : List Node, sizeOf ns ≤ n → ∀ prevEnd content, ListOk src (leavesList ns) → Boundary src prevEnd →
      Good src (parseMembers src prevEnd ns content)) ∧
    (∀ ns : List Node, sizeOf ns ≤ n → ∀ prevEnd content, ListOk src (leavesList ns) → Boundary src prevEnd →
      Good src (parseMember src prevEnd ns content)) ∧
    (∀ ns : List Node, sizeOf ns ≤ n → ∀ prevEnd r, ListOk src (leavesList ns) → Boundary src prevEnd →
      findMemberValue src prevEnd ns = some r → Good src r) := by
  -- On a bound of `sizeOf`, not as five mutually recursive theorems: `parseMembers` reaches `parseMember cs`
  -- through a `split`, Lean then compiles such a block by well-founded recursion, at thirty times the cost.
  induction n with
  | zero =>
    refine ⟨?_, ?_, ?_, ?_, ?_⟩
    · intro node h; cases node <;> simp at h
    all_goals (intro ns h; cases ns <;> simp at h)
  | succ n ih =>
    obtain ⟨ihR, ihE, ihMs, ihM, ihF⟩ := ih
    -- findMemberValue first: parseMember calls it on the same list
    have hF : ∀ ns : List Node, sizeOf ns ≤ n + 1 → ∀ prevEnd r, ListOk src (leavesList ns) →
        Boundary src prevEnd → findMemberValue src prevEnd ns = some r → Good src r := by
      intro ns
      induction ns with
      | nil => intro _ _ _ _ _ h; simp [findMemberValue] at h
      | cons a l ihl =>
        intro hn prevEnd r hl hb h
        simp only [leavesList] at hl
        simp only [findMemberValue] at h
        split at h
        · cases h
          exact ihR a (by simp at hn; omega) prevEnd hl.append_left hb
        · exact ihl (by simp at hn ⊢; omega) _ r hl.append_right (nodeEnd_boundary hb hl.append_left) h
    have hM : ∀ ns : List Node, sizeOf ns ≤ n + 1 → ∀ prevEnd content, ListOk src (leavesList ns) →
        Boundary src prevEnd → Good src (parseMember src prevEnd ns content) := by
      intro ns hn prevEnd content hl hb
      unfold parseMember
      cases hk : findNode isStringTok prevEnd ns with
      | none => exact good_err_other src _ (by intro v s t h; cases h)
      | some kp =>
        obtain ⟨keyNode, kPrev⟩ := kp
        obtain ⟨hmem, hp, hkb⟩ := findNode_spec isStringTok ns prevEnd keyNode kPrev hb hl hk
        simp only
        cases keyNode with
        | rule r cs => simp [isStringTok] at hp
        | tok k s e =>
          have hk' : k = .string := by cases k <;> simp [isStringTok] at hp ⊢
          subst hk'
          have htok := hl.1 ⟨.string, s, e⟩ (leaves_subset_of_mem hmem _ (by simp [leaves]))
          obtain ⟨text, hsl, hlen⟩ := htok.str rfl
          simp only [nodeSpan, hsl]
          have : ¬ text.length < 2 := Nat.not_lt.2 hlen
          simp only [this, if_false]
          refine good_bind_unit (hasErrors_good hb hl) _ ?_
          cases hv : findMemberValue src prevEnd ns with
          | none => exact good_err_other src _ (by intro v s t h; cases h)
          | some r =>
            simp only
            have hr := hF ns hn prevEnd r hl hb hv
            cases r with
            | panic => exact absurd rfl hr.1
            | err e => exact good_err_cast hr
            | ok value =>
              simp only
              split
              · exact good_ok src _
              · exact good_inferErr src _
    refine ⟨?_, ?_, ?_, hM, hF⟩
    · intro node hn prevEnd hl hb
      unfold parseRule
      split
      next cs =>
        have hcs : ListOk src (leavesList cs) := by simpa [leaves] using hl
        refine good_bind_unit (hasErrors_good hb hcs) _ ?_
        split
        · exact parseToken_good src _
        · exact good_err_other src _ (by intro v s t h; cases h)
      next => exact good_ok src _
      next cs =>
        have hcs : ListOk src (leavesList cs) := by simpa [leaves] using hl
        refine good_bind_unit (hasErrors_good hb hcs) _ ?_
        have hE := ihE cs (by simp at hn; omega) prevEnd hcs hb
        cases hpe : parseElements src prevEnd cs with
        | panic => exact absurd hpe hE.1
        | err e => exact good_err_cast (hpe ▸ hE)
        | ok elements =>
          simp only
          split
          · exact good_ok src _
          · exact good_inferErr src _
      next cs =>
        have hcs : ListOk src (leavesList cs) := by simpa [leaves] using hl
        refine good_bind_unit (hasErrors_good hb hcs) _ ?_
        have hE := ihMs cs (by simp at hn; omega) prevEnd [] hcs hb
        cases hpe : parseMembers src prevEnd cs [] with
        | panic => exact absurd hpe hE.1
        | err e => exact good_err_cast (hpe ▸ hE)
        | ok content => exact good_ok src _
      next => exact invalidJsonAt_good (nodeSpan_sliceable hb hl)
    · intro ns
      induction ns with
      | nil => intro _ _ _ _; unfold parseElements; exact good_ok src _
      | cons a l ihl =>
        intro hn prevEnd hl hb
        simp only [leavesList] at hl
        have hb' := nodeEnd_boundary hb hl.append_left
        have hrest := ihl (by simp at hn ⊢; omega) (nodeEnd prevEnd a) hl.append_right hb'
        unfold parseElements
        split
        · exact hrest
        · have hA := ihR a (by simp at hn; omega) prevEnd hl.append_left hb
          cases hpa : parseRule src prevEnd a with
          | panic => exact absurd hpa hA.1
          | err e => exact good_err_cast (hpa ▸ hA)
          | ok s =>
            simp only
            cases hpr : parseElements src (nodeEnd prevEnd a) l with
            | panic => exact absurd hpr hrest.1
            | err e => exact good_err_cast (hpr ▸ hrest)
            | ok ss => exact good_ok src _
    · intro ns
      induction ns with
      | nil => intro _ _ _ _ _; unfold parseMembers; exact good_ok src _
      | cons a l ihl =>
        intro hn prevEnd content hl hb
        simp only [leavesList] at hl
        have hb' := nodeEnd_boundary hb hl.append_left
        have hrest := fun c => ihl (by simp at hn ⊢; omega) (nodeEnd prevEnd a) c hl.append_right hb'
        unfold parseMembers
        split
        · rename_i cs
          have hcs : ListOk src (leavesList cs) := by simpa [leaves] using hl.append_left
          have hA := ihM cs (by simp at hn; omega) prevEnd content hcs hb
          cases hpa : parseMember src prevEnd cs content with
          | panic => exact absurd hpa hA.1
          | err e => exact good_err_cast (hpa ▸ hA)
          | ok content' => exact hrest content'
        · exact hrest content

theorem parseRule_good {src : List Char} {node : Node} {prevEnd : Nat} (hl : ListOk src (leaves node))
    (hb : Boundary src prevEnd) : Good src (parseRule src prevEnd node) :=
  (cst_good src (sizeOf node)).1 node (Nat.le_refl _) prevEnd hl hb

end ShapeVerif
