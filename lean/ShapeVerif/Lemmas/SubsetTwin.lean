/-
The tick-counting twin of `is_subset` (`subsetT`, Model/Cost.lean), read like `isSubset` by its second
argument: away from the eight recursive arms it is `(isSubset a b, 1)`, and its list helpers are
`anyT` / `allT` over the same lists, filtered or zipped. Hence its Boolean is `isSubset`
(`subsetT_is_isSubset`, Props/C12); the bound on its count is there too.
The equations `subsetT_atom` … `subsetT_oneOf` are `rfl` once constructors and flags are known (closed by
`eq_refl`: on every one of the many goals the `rfl` macro would first try `Iff.rfl` and `HEq.rfl`).
-/
import ShapeVerif.Model.Cost
import ShapeVerif.Lemmas.SubsetEqs
namespace ShapeVerif
open Shape

theorem allT_fst {α : Type} (f : α → Bool × Nat) (g : α → Bool) :
    ∀ (l : List α), (∀ x ∈ l, (f x).1 = g x) → (allT f l).1 = l.all g
  | [], _ => rfl
  | x :: l, h => by
    rw [List.all_cons, ← h x (List.mem_cons_self ..),
      ← allT_fst f g l fun y hy => h y (List.mem_cons_of_mem _ hy)]
    simp only [allT]
    cases (f x).1 <;> rfl

theorem anyT_fst {α : Type} (f : α → Bool × Nat) (g : α → Bool) :
    ∀ (l : List α), (∀ x ∈ l, (f x).1 = g x) → (anyT f l).1 = l.any g
  | [], _ => rfl
  | x :: l, h => by
    rw [List.any_cons, ← h x (List.mem_cons_self ..),
      ← anyT_fst f g l fun y hy => h y (List.mem_cons_of_mem _ hy)]
    simp only [anyT]
    cases (f x).1 <;> rfl

theorem anySupT_eq (s : Shape) (l : List Shape) : anySupT s l = anyT (subsetT s) l := by
  induction l with
  | nil => rfl
  | cons v l ih => simp only [anySupT, anyT, ih]

theorem anyObjT_eq (s : Shape) (l : List Shape) : anyObjT s l = anyT (subsetT s) (l.filter isObject) := by
  induction l with
  | nil => rfl
  | cons v l ih =>
    simp only [anyObjT, List.filter_cons, ih]
    cases v.isObject <;> rfl

theorem anyNullOkT_eq (s : Shape) (n : Bool) (l : List Shape) :
    anyNullOkT s n l = anyT (subsetT s) (l.filter fun v => n || v.isOptional) := by
  induction l with
  | nil => rfl
  | cons v l ih =>
    simp only [anyNullOkT, List.filter_cons, ih]
    cases (n || v.isOptional) <;> rfl

theorem zipAllT_eq (es os : List Shape) : zipAllT es os = allT (fun p => subsetT p.1 p.2) (es.zip os) := by
  induction es generalizing os with
  | nil => cases os <;> rfl
  | cons e es ih =>
    cases os with
    | nil => rfl
    | cons o os => simp only [zipAllT, List.zip_cons_cons, allT, ih]

theorem lookupT_eq (k : String) (v : Shape) (m : Members) :
    lookupT k v m = match mapGet k m with | some ov => subsetT v ov | none => (false, 0) := by
  induction m with
  | nil => rfl
  | cons a m ih =>
    obtain ⟨k', x⟩ := a
    simp only [lookupT, mapGet_cons, ih]
    split <;> rfl

/-- the call itself, on top of what it made -/
def subsetTick (r : Bool × Nat) : Bool × Nat := (r.1, r.2 + 1)

theorem subsetT_atom {b : Shape} (hb : b.isAtom = true) (a : Shape) : subsetT a b = (isSubset a b, 1) := by
  cases b with
  | null | bool | number | string =>
    cases a with
    | null => eq_refl
    | bool o | number o | string o | array _ o | object _ o | oneOf _ o | tuple _ o => cases o <;> eq_refl
  | array | object | oneOf | tuple => cases hb

theorem subsetT_array (a u : Shape) (p : Bool) : subsetT a (.array u p) =
    match a with
    | .array t o => if !o || p then subsetTick (subsetT t u) else (false, 1)
    | .tuple es o => if !o || p then subsetTick (allT (subsetT · u) es) else (false, 1)
    | a => (isSubset a (.array u p), 1) := by
  cases a with
  | null => eq_refl
  | array _ o | tuple _ o => cases o <;> cases p <;> eq_refl
  | bool o | number o | string o | object _ o | oneOf _ o => cases o <;> eq_refl

theorem subsetT_tuple (a : Shape) (os : List Shape) (p : Bool) : subsetT a (.tuple os p) =
    match a with
    | .tuple es o =>
      if !o || p then subsetTick ((zipAllT es os).1 && es.length == os.length, (zipAllT es os).2) else (false, 1)
    | a => (isSubset a (.tuple os p), 1) := by
  cases a with
  | null => eq_refl
  | tuple _ o => cases o <;> cases p <;> eq_refl
  | bool o | number o | string o | array _ o | object _ o | oneOf _ o => cases o <;> eq_refl

theorem subsetT_object (a : Shape) (oc : Members) (p : Bool) : subsetT a (.object oc p) =
    match a with
    | .object c o =>
      if (!o || p) && oc.all (fun kv => mapContainsKey kv.1 c || kv.2.isOptional || isOneOfNull kv.2) then
        subsetTick (allT (fun kv => lookupT kv.1 kv.2 oc) c)
      else (false, 1)
    | a => (isSubset a (.object oc p), 1) := by
  cases a with
  | null => eq_refl
  | object _ o => cases o <;> cases p <;> eq_refl
  | bool o | number o | string o | array _ o | oneOf _ o | tuple _ o => cases o <;> eq_refl

theorem subsetT_oneOf (a : Shape) (ws : List Shape) (p : Bool) : subsetT a (.oneOf ws p) =
    match a with
    | .array t o => subsetTick (if o then anyNullOkT (.array t false) (p || setContains .null ws) ws
        else anySupT (.array t false) ws)
    | .tuple es o => subsetTick (if o then anyNullOkT (.tuple es false) (p || setContains .null ws) ws
        else anySupT (.tuple es false) ws)
    | .object c o => subsetTick (if o then anyNullOkT (.object c false) (p || setContains .null ws) ws
        else anyObjT (.object c false) ws)
    | .oneOf vs o =>
      if !o || p then if setIsSubset vs ws then (true, 1) else subsetTick (allT (fun v => anySupT v ws) vs)
      else (false, 1)
    | a => (isSubset a (.oneOf ws p), 1) := by
  cases a with
  | null => eq_refl
  | oneOf _ o => cases o <;> cases p <;> eq_refl
  | bool o | number o | string o | array _ o | object _ o | tuple _ o => cases o <;> eq_refl

end ShapeVerif
