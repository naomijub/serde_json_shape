/-
The array-of-objects branch of single-document inference, key by key.
For element shapes `object c₀ _ :: rest` whose member values are never `OneOf` (true of every
single-document shape), the merged content maps a key to the shape it has where it first occurs,
made optional unless every element carries the key.
-/
import ShapeVerif.Lemmas.Containers
import ShapeVerif.Lemmas.ShapeClasses
import ShapeVerif.Model.Infer
namespace ShapeVerif
open Shape Std

def hasKey (k : String) : Shape → Bool
  | .object c _ => (mapGet k c).isSome
  | _ => false

def firstValue (k : String) : List Shape → Option Shape
  | [] => none
  | .object c _ :: rest => match mapGet k c with
    | some v => some v
    | none => firstValue k rest
  | _ :: rest => firstValue k rest

/-- **the specification of the merged object** (C17): a key present in every element carries its
(first) shape, a key present in only some elements carries the optional form -/
def specLookup (k : String) (elems : List Shape) : Option Shape :=
  match firstValue k elems with
  | none => none
  | some s => some (if elems.all (hasKey k) then s else s.asOptional)

theorem markMissing_eq_map (acc : Members) (ks : List String) :
    markMissing acc ks =
      acc.map fun kv => (kv.1, if ks.any (fun k' => k' == kv.1) then kv.2 else kv.2.asOptional) :=
  List.map_congr_left fun kv _ => by split <;> rfl

theorem mapGet_markMissing (k : String) (acc : Members) (ks : List String) :
    mapGet k (markMissing acc ks) =
      (mapGet k acc).map fun v => if ks.any (fun k' => k' == k) then v else v.asOptional := by
  rw [markMissing_eq_map]
  exact mapGet_map_val (fun k v => if ks.any (fun k' => k' == k) then v else v.asOptional) k acc

theorem firstValue_eq_findSome? (k : String) : ∀ elems : List Shape,
    firstValue k elems = elems.findSome? fun e => match e with
      | .object c _ => mapGet k c
      | _ => none
  | [] => rfl
  | e :: rest => by
    rw [List.findSome?_cons, ← firstValue_eq_findSome? k rest]
    cases e with
    | object c o =>
      simp only [firstValue]
      cases mapGet k c <;> rfl
    | _ => rfl

theorem firstValue_some {k : String} {s : Shape} {elems : List Shape} (h : firstValue k elems = some s) :
    ∃ c o, Shape.object c o ∈ elems ∧ mapGet k c = some s := by
  rw [firstValue_eq_findSome?] at h
  obtain ⟨e, he, h⟩ := List.exists_of_findSome?_eq_some h
  cases e with
  | object c o => exact ⟨c, o, he, h⟩
  | _ => cases h

theorem firstValue_isSome {k : String} {c : Members} {o : Bool} {v : Shape} {elems : List Shape}
    (hm : Shape.object c o ∈ elems) (hg : mapGet k c = some v) : ∃ s, firstValue k elems = some s := by
  rw [firstValue_eq_findSome?, ← Option.isSome_iff_exists, List.findSome?_isSome_iff]
  exact ⟨_, hm, by simp [hg]⟩

theorem mapGet_fold1 (k : String) (rest : List Shape) (hobj : rest.all isObject = true) :
    ∀ acc : Members,
    mapGet k (rest.foldl fold1Step acc) =
      (mapGet k acc).map fun v => if rest.all (hasKey k) then v else v.asOptional := by
  induction rest with
  | nil => exact fun acc => by simp
  | cons s rest ih =>
    intro acc
    rw [List.all_cons, Bool.and_eq_true] at hobj
    obtain ⟨c, o, rfl⟩ := isObject_cases hobj.1
    have hstep : fold1Step acc (.object c o) = markMissing acc (mapKeys c) := rfl
    have hkeys : (mapKeys c).any (fun k' => k' == k) = (mapGet k c).isSome := by
      rw [← mapContainsKey_eq_isSome, mapContainsKey, mapKeys, List.any_map]
      exact congrArg _ (funext fun kv => Bool.beq_comm)
    rw [List.foldl_cons, ih hobj.2, hstep, mapGet_markMissing, hkeys, List.all_cons, hasKey]
    cases mapGet k acc with
    | none => rfl
    | some v =>
      cases (mapGet k c).isSome <;> cases rest.all (hasKey k) <;>
        simp [asOptional, withOptional_withOptional]

/-- `NoOneOfVals c` (below) of the content `c` of every object among `elems` -/
def noOneOfValues (elems : List Shape) : Prop :=
  ∀ s ∈ elems, ∀ c o, s = .object c o → ∀ kv ∈ c, kv.2.isOneOf = false

/-- no stored value is a `OneOf` (single-document inference never creates one) -/
def NoOneOfVals (c : Members) : Prop := ∀ kv ∈ c, kv.2.isOneOf = false

theorem NoOneOfVals.get {c : Members} (h : NoOneOfVals c) {k : String} {s : Shape}
    (hg : mapGet k c = some s) : s.isOneOf = false := h (k, s) (mem_of_mapGet hg)

theorem NoOneOfVals.insert {c : Members} (h : NoOneOfVals c) {k : String} {v : Shape}
    (hv : v.isOneOf = false) : NoOneOfVals (mapInsert k v c) := fun _ hkv =>
  (mem_mapInsert hkv).elim (· ▸ hv) (h _)

/-- fold 2, one member: where no `OneOf` is stored, `absorbMember` is `or_insert_with` and nothing else -/
theorem absorbMember_eq {acc : Members} {k : String} {v : Shape} (hacc : NoOneOfVals acc)
    (hv : v.isOneOf = false) :
    absorbMember acc k v = mapInsert k ((mapGet k acc).getD v.asOptional) acc := by
  have keep : ∀ cur : Shape, cur.isOneOf = false →
      (match cur with | .oneOf vs o => Shape.oneOf (setInsert v vs) o | other => other) = cur := by
    intro cur h
    cases cur with
    | oneOf vs o => cases h
    | _ => rfl
  unfold absorbMember
  cases hg : mapGet k acc with
  | some old => exact congrArg (mapInsert k · acc) (keep old (hacc.get hg))
  | none => exact congrArg (mapInsert k · acc) (keep _ ((isOneOf_withOptional true v).trans hv))

theorem absorbMember_spec (k k' : String) {v : Shape} {acc : Members} (hacc : NoOneOfVals acc)
    (hv : v.isOneOf = false) :
    mapGet k (absorbMember acc k' v) = (mapGet k acc).or (if k == k' then some v.asOptional else none) ∧
    NoOneOfVals (absorbMember acc k' v) := by
  rw [absorbMember_eq hacc hv, mapGet_mapInsert]
  constructor
  · by_cases h : (k == k') = true
    · rw [if_pos h, if_pos h, eq_of_beq h]
      cases mapGet k' acc <;> rfl
    · rw [if_neg h, if_neg h, Option.or_none]
  · apply hacc.insert
    cases hg : mapGet k' acc with
    | some old => exact hacc.get hg
    | none => exact (isOneOf_withOptional true v).trans hv

theorem absorbObject_spec (k : String) (c : Members) (hc : NoOneOfVals c) :
    ∀ acc : Members, NoOneOfVals acc →
    mapGet k (absorbObject acc c) = (mapGet k acc).or ((mapGet k c).map asOptional) ∧
    NoOneOfVals (absorbObject acc c) := by
  unfold absorbObject
  induction c with
  | nil => exact fun acc hacc => ⟨by simp [mapGet], hacc⟩
  | cons a c ih =>
    obtain ⟨k', v⟩ := a
    intro acc hacc
    obtain ⟨a1, a2⟩ := absorbMember_spec k k' hacc (hc (k', v) (by simp))
    obtain ⟨i1, i2⟩ := ih (fun kv hkv => hc kv (List.mem_cons_of_mem _ hkv)) _ a2
    refine ⟨?_, i2⟩
    rw [List.foldl_cons, i1, a1, mapGet_cons, Option.or_assoc]
    by_cases h : (k == k') = true <;> simp [h]

theorem mapGet_fold2 (k : String) (rest : List Shape) (hobj : rest.all isObject = true)
    (hno : noOneOfValues rest) :
    ∀ acc : Members, NoOneOfVals acc →
    mapGet k (rest.foldl fold2Step acc) = (mapGet k acc).or ((firstValue k rest).map asOptional) := by
  induction rest with
  | nil => exact fun acc _ => by simp [firstValue]
  | cons s rest ih =>
    intro acc hacc
    rw [List.all_cons, Bool.and_eq_true] at hobj
    obtain ⟨c, o, rfl⟩ := isObject_cases hobj.1
    obtain ⟨a1, a2⟩ := absorbObject_spec k c (hno _ (by simp) c o rfl) acc hacc
    have hstep : fold2Step acc (.object c o) = absorbObject acc c := rfl
    rw [List.foldl_cons, hstep, ih hobj.2 (fun s hs => hno s (List.mem_cons_of_mem _ hs)) _ a2, a1,
      Option.or_assoc]
    simp only [firstValue]
    cases mapGet k c <;> simp

theorem NoOneOfVals.fold1 {content : Members} (h : NoOneOfVals content) (rest : List Shape) :
    NoOneOfVals (rest.foldl fold1Step content) := by
  refine List.foldlRecOn rest fold1Step h fun acc hacc s _ => ?_
  unfold fold1Step
  split
  · intro kv hkv
    rw [markMissing_eq_map] at hkv
    obtain ⟨kv0, h0, rfl⟩ := List.mem_map.1 hkv
    dsimp only
    split
    · exact hacc kv0 h0
    · exact (isOneOf_withOptional true kv0.2).trans (hacc kv0 h0)
  · exact hacc

/-- **C17, array of objects**: the merged content, key by key -/
theorem mapGet_mergeObjectElements (k : String) (content : Members) (o : Bool) (rest : List Shape)
    (hobj : rest.all isObject = true) (hno : noOneOfValues (.object content o :: rest)) :
    mapGet k (mergeObjectElements content rest) = specLookup k (.object content o :: rest) := by
  unfold mergeObjectElements specLookup
  rw [mapGet_fold2 k rest hobj (fun s hs => hno s (List.mem_cons_of_mem _ hs)) _
      (NoOneOfVals.fold1 (hno _ (by simp) content o rfl) rest), mapGet_fold1 k rest hobj]
  simp only [firstValue, List.all_cons, hasKey]
  rcases Option.eq_none_or_eq_some (mapGet k content) with hg | ⟨v, hg⟩
  · rcases Option.eq_none_or_eq_some (firstValue k rest) with hf | ⟨w, hf⟩ <;> simp [hg, hf]
  · simp [hg]

theorem sortedKeys_mergeObjectElements {content : Members} (rest : List Shape)
    (h : sortedKeys content = true) : sortedKeys (mergeObjectElements content rest) = true := by
  refine List.foldlRecOn (motive := (sortedKeys · = true)) rest fold2Step
    (List.foldlRecOn (motive := (sortedKeys · = true)) rest fold1Step h fun acc hacc s _ => ?_)
    fun acc hacc s _ => ?_
  · unfold fold1Step
    split
    · refine (sortedKeys_congr ?_).trans hacc
      rw [markMissing_eq_map, mapKeys, mapKeys, List.map_map]
      rfl
    · exact hacc
  · unfold fold2Step absorbObject
    split
    · exact List.foldlRecOn (motive := (sortedKeys · = true)) _ _ hacc fun a ha kv _ => sortedKeys_mapInsert ha
    · exact hacc

theorem specLookup_some {k : String} {v : Shape} {elems : List Shape} (h : specLookup k elems = some v) :
    ∃ c o s, Shape.object c o ∈ elems ∧ (k, s) ∈ c ∧ (v = s ∨ v = s.asOptional) := by
  unfold specLookup at h
  split at h
  · cases h
  · rename_i s hs
    obtain ⟨c, o, hm, hg⟩ := firstValue_some hs
    refine ⟨c, o, s, hm, mem_of_mapGet hg, ?_⟩
    cases h
    split <;> simp

theorem specLookup_same {k : String} {c : Members} {o : Bool} {rest : List Shape}
    (h : ∀ x ∈ rest, x = .object c o) : specLookup k (.object c o :: rest) = mapGet k c := by
  unfold specLookup
  cases hg : mapGet k c with
  | some v =>
    have : (Shape.object c o :: rest).all (hasKey k) = true :=
      List.all_eq_true.2 fun x hx => by
        rw [(List.mem_cons.1 hx).elim id (h x), hasKey, hg]
        rfl
    simp [firstValue, hg, this]
  | none =>
    have : firstValue k rest = none := by
      rw [firstValue_eq_findSome?, List.findSome?_eq_none_iff]
      intro x hx
      rw [h x hx]
      exact hg
    simp [firstValue, hg, this]

end ShapeVerif
