/-
What the results of the non-recursive arms of `merger` admit: for `mixed`, `addToOneOf`, the union of
two variant sets and the variant sets of the array/tuple arms, exactly the documents of the operands
(elementwise, for the array/tuple arms). `admitsAny` sees a variant set only through its members, so
each equation follows from the membership lemma of the set; what is left over after rewriting is
Boolean algebra: `&&` is distributed over `||` and `ac_rfl` (or `simp`) reorders the disjuncts.
-/
import ShapeVerif.Lemmas.MergeArms
import ShapeVerif.Lemmas.Admits
namespace ShapeVerif
open Shape Std

theorem admitsAny_setInsert (a : Shape) (l : List Shape) (d : Doc) :
    admitsAny (setInsert a l) d = (admits a d || admitsAny l d) := by
  simp only [admitsAny_eq_any]
  exact (any_congr_mem (l' := a :: l) (fun x => by simp [mem_setInsert]) _).trans List.any_cons

theorem admitsAny_setExtend (s add : List Shape) (d : Doc) :
    admitsAny (setExtend s add) d = (admitsAny s d || admitsAny add d) := by
  simp only [admitsAny_eq_any]
  exact (any_congr_mem (l' := s ++ add) (fun x => by simp [mem_setExtend]) _).trans List.any_append

theorem admitsAny_setOfList (l : List Shape) (d : Doc) : admitsAny (setOfList l) d = admitsAny l d := by
  rw [setOfList, admitsAny_setExtend]
  rfl

theorem admitsAny_nullIf (c : Bool) (d : Doc) :
    admitsAny (if c then setInsert .null [] else []) d = (c && d.isNull) := by
  cases c <;> simp [admitsAny_eq_any, setInsert, admits]

theorem any_admits_eq_asNonOptional (es : List Shape) (d : Doc) : es.any (fun e => admits e d) =
    (admitsAny (es.map asNonOptional) d || (es.any isOptional && d.isNull)) := by
  induction es with
  | nil => rfl
  | cons e es ih =>
    simp only [List.any_cons, List.map_cons, admitsAny_eq_any, ih, admits_eq_asNonOptional e d,
      Bool.and_or_distrib_right]
    ac_rfl

theorem admits_mixed (a b : Shape) (x : Doc) : admits (mixed a b) x = (admits a x || admits b x) := by
  rw [admits_eq_asNonOptional a, admits_eq_asNonOptional b, mixed, admits_oneOf, admitsAny_setOfList]
  cases a.isOptional <;> cases b.isOptional <;> simp [admitsAny_eq_any, admits] <;> ac_rfl

theorem admits_addToOneOf (a : Shape) (vs : List Shape) (p : Bool) (x : Doc) :
    admits (.oneOf (addToOneOf a vs) p) x = (admits a x || admits (.oneOf vs p) x) := by
  have hnull : Shape.null ∈ vs → x.isNull = true → admitsAny vs x = true := fun h hx =>
    admitsAny_iff.2 ⟨_, h, hx⟩
  rw [admits_eq_asNonOptional a, admits_oneOf, admits_oneOf, addToOneOf]
  by_cases hn : Shape.null ∈ vs
  · simp only [setContains_iff.2 hn, Bool.not_true, Bool.and_false, Bool.false_eq_true, if_false,
      admitsAny_setInsert]
    cases hx : x.isNull <;> simp [hx, hnull hn]
  · cases a.isOptional <;>
      simp [setContains_false_iff.2 hn, admitsAny_setInsert, admits, Bool.or_assoc]

theorem admits_oneOf_setExtend (vs ws : List Shape) (o p : Bool) (x : Doc) :
    admits (.oneOf (setExtend vs ws) (o || p)) x = (admits (.oneOf vs o) x || admits (.oneOf ws p) x) := by
  simp only [admits_oneOf, admitsAny_setExtend, Bool.and_or_distrib_right]
  ac_rfl

theorem admitsAny_arrayElemVariants (t : Shape) (init : List Shape) (x : Doc) :
    admitsAny (arrayElemVariants t init) x = (admits t x || admitsAny init x) := by
  unfold arrayElemVariants
  split
  · rename_i inner io
    cases io <;> simp [admitsAny_setExtend, admitsAny_setInsert, admits, Bool.or_comm, Bool.or_left_comm]
  · rw [admitsAny_setInsert]

theorem admitsAny_arrayTupleVariants (t : Shape) (es : List Shape) (x : Doc) :
    admitsAny (arrayTupleVariants t es) x = (admits t x || es.any (fun e => admits e x)) := by
  rw [arrayTupleVariants, admitsAny_setExtend, admitsAny_arrayElemVariants, admitsAny_nullIf,
    any_admits_eq_asNonOptional, admits_eq_asNonOptional t, Bool.and_or_distrib_right]
  ac_rfl

theorem admitsAny_tupleUnionVariants (es os : List Shape) (x : Doc) :
    admitsAny (tupleUnionVariants es os) x =
      (es.any (fun e => admits e x) || os.any (fun e => admits e x)) := by
  rw [tupleUnionVariants, admitsAny_setExtend, admitsAny_setExtend, admitsAny_nullIf,
    any_admits_eq_asNonOptional es, any_admits_eq_asNonOptional os, Bool.and_or_distrib_right]
  ac_rfl

end ShapeVerif
