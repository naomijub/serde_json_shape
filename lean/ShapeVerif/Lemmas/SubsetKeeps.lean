/-
Completeness of `is_subset` along merging (C03), by the classes of arms of `merger`:
* `keeps`: a plain shape below the accumulator stays below the merged accumulator;
* `newSample`: the merged-in plain shape is below the result.
Both need reflexivity, which is stated with its property in Props/C10: hence that import.
-/
import ShapeVerif.Props.C10
import ShapeVerif.Lemmas.MergeArms
namespace ShapeVerif
open Shape

theorem nullableSyn_mixed_right {a b : Shape} (h : b.isOptional = true) : nullableSyn (mixed a b) = true := by
  rw [mixed_eq, nullableSyn_oneOf, mem_mixedVariants]
  exact .inr (.inr (.inr ⟨rfl, flag_or_right _ h⟩))

/-! ### a shape below an operand stays below the `OneOf` the operand goes into -/

theorem sub_mixed_left {s a b : Shape} (ha : a.isOneOf = false) (h : isSubset s a = true) :
    isSubset s (mixed a b) = true :=
  sub_into_oneOf ha h (mem_mixedVariants.2 (.inl rfl))
    fun ho => mem_mixedVariants.2 (.inr (.inr ⟨rfl, flag_or_left _ ho⟩))

theorem sub_mixed_right {s a b : Shape} (hb : b.isOneOf = false) (h : isSubset s b = true) :
    isSubset s (mixed a b) = true :=
  sub_into_oneOf hb h (mem_mixedVariants.2 (.inr (.inl rfl)))
    fun ho => mem_mixedVariants.2 (.inr (.inr ⟨rfl, flag_or_right _ ho⟩))

theorem sub_addToOneOf_new {s x : Shape} {vs : List Shape} {p : Bool} (hx : x.isOneOf = false)
    (h : isSubset s x = true) : isSubset s (.oneOf (addToOneOf x vs) p) = true :=
  sub_into_oneOf hx h (mem_addToOneOf.2 (.inl rfl)) fun ho => mem_addToOneOf.2 (.inr (.inr ⟨rfl, ho⟩))

theorem sub_addToOneOf_old {s x : Shape} {vs : List Shape} {p : Bool} (hs : s.isOneOf = false)
    (h : isSubset s (.oneOf vs p) = true) : isSubset s (.oneOf (addToOneOf x vs) p) = true :=
  sub_oneOf_mono h (fun _ hv => mem_addToOneOf.2 (.inr (.inl hv))) .inl hs

theorem sub_arrayTupleVariants_elem {x t : Shape} {es : List Shape} (hx : x.isOneOf = false)
    (h : isSubset x t = true) : isSubset x (.oneOf (arrayTupleVariants t es) false) = true := by
  have hnull : t.isOptional = true → Shape.null ∈ arrayTupleVariants t es := fun ho =>
    mem_arrayTupleVariants.2 (.inl ⟨rfl, flag_or_right _ ho⟩)
  cases ht : t.isOneOf with
  | false => exact sub_into_oneOf_self ht h (mem_arrayTupleVariants_self ht) hnull
  | true =>
    cases t <;> cases ht
    exact sub_oneOf_mono h (fun v hv => mem_arrayTupleVariants.2 (.inr (.inr (.inl hv)))) (fun ho => .inr (hnull ho)) hx

theorem sub_arrayTupleVariants_mem {x e t : Shape} {es : List Shape} (he : e ∈ es) (heo : e.isOneOf = false)
    (h : isSubset x e = true) : isSubset x (.oneOf (arrayTupleVariants t es) false) = true :=
  sub_into_oneOf heo h (mem_arrayTupleVariants.2 (.inr (.inl ⟨e, he, rfl⟩))) fun ho =>
    mem_arrayTupleVariants.2 (.inl ⟨rfl, flag_or_left _ (List.any_eq_true.2 ⟨e, he, ho⟩)⟩)

theorem sub_tupleUnionVariants {x e : Shape} {es os : List Shape} (he : e ∈ es ∨ e ∈ os) (heo : e.isOneOf = false)
    (h : isSubset x e = true) : isSubset x (.oneOf (tupleUnionVariants es os) false) = true := by
  refine sub_into_oneOf heo h (mem_tupleUnionVariants.2 (.inr ?_)) fun ho =>
    mem_tupleUnionVariants.2 (.inl ⟨rfl, ?_⟩)
  · exact he.imp (fun h => ⟨e, h, rfl⟩) (fun h => ⟨e, h, rfl⟩)
  · rcases he with he | he
    · exact flag_or_left _ (List.any_eq_true.2 ⟨e, he, ho⟩)
    · exact flag_or_right _ (List.any_eq_true.2 ⟨e, he, ho⟩)

theorem pick_keeps {s e d c : Shape} (hdp : d.plain = true) (hdw : d.wf = true)
    (hp : pickTuple e d = some c) (h : isSubset s e = true) : isSubset s c = true := by
  rcases pickTuple_cases hp with ⟨hed, rfl⟩ | ⟨_, rfl⟩ | ⟨_, rfl⟩ | ⟨rfl, rfl⟩
  · exact sub_trans_plain hdp hdw h hed
  · exact h
  · exact sub_withOptional_right h fun _ => rfl
  · rw [sub_null_inv h]
    exact null_subset_optional _ (asOptional_isOptional _)

theorem pick_new {e d c : Shape} (hdw : d.wf = true) (hp : pickTuple e d = some c) : isSubset d c = true := by
  rcases pickTuple_cases hp with ⟨_, rfl⟩ | ⟨hde, rfl⟩ | ⟨rfl, rfl⟩ | ⟨_, rfl⟩
  · exact subset_refl _ hdw
  · exact hde
  · exact null_subset_optional _ (asOptional_isOptional _)
  · exact subset_as_optional _ hdw

theorem Zipped.keeps {es os folded : List Shape} (h : Zipped es os folded) : ∀ {ss : List Shape},
    plainList os = true → wfList os = true → Pointwise (fun s e => isSubset s e = true) ss es →
    Pointwise (fun s c => isSubset s c = true) ss folded := by
  induction h with
  | nil => exact fun _ _ hz => hz
  | cons hc _ ih =>
    intro ss hp hw hz
    cases ss with
    | nil => cases hz
    | cons s ss =>
      simp only [plainList, wfList, Bool.and_eq_true] at hp hw
      exact ⟨pick_keeps hp.1 hw.1 hc hz.1, ih hp.2 hw.2 hz.2⟩

theorem Zipped.new {es os folded : List Shape} (h : Zipped es os folded) :
    wfList os = true → Pointwise (fun o c => isSubset o c = true) os folded := by
  induction h with
  | nil => exact fun _ => trivial
  | cons hc _ ih =>
    simp only [wfList, Bool.and_eq_true]
    exact fun hw => ⟨pick_new hw.1 hc, ih hw.2⟩

theorem keeps_object {cs c oc : Members} (hc : sortedKeys c = true) (ho : sortedKeys oc = true)
    (ih : ∀ k s v ov, s.plain = true → mapGet k c = some v → mapGet k oc = some ov →
      isSubset s v = true → isSubset s (merger v ov) = true)
    (hp : plainMembers cs = true) (h : objSub cs c = true) : objSub cs (mergedContent c oc) = true := by
  rw [objSub_iff] at h ⊢
  refine ⟨fun k m hkm => ?_, fun k s hks => ?_⟩
  · have hget := mapGet_eq_some_of_mem (sortedKeys_mergedContent c oc) hkm
    rw [mapGet_mergedContent hc ho] at hget
    cases hv : mapGet k c <;> cases hov : mapGet k oc <;> simp only [hv, hov] at hget <;> cases hget
    · exact .inr (nullableSyn_of_isOptional (asOptional_isOptional _))
    · exact .inr (nullableSyn_of_isOptional (asOptional_isOptional _))
    · -- `nullableSyn v` says that `Null` is below `v`: the claim itself, for the plain shape `Null`
      simp only [← null_sub] at h ⊢
      exact (h.1 k _ (mem_of_mapGet hv)).imp_right (ih k .null _ _ rfl hv hov)
  · obtain ⟨v, hv, hsv⟩ := h.2 k s hks
    rw [mapGet_mergedContent hc ho, hv]
    cases hov : mapGet k oc with
    | none => exact ⟨_, rfl, sub_withOptional_right hsv fun _ => rfl⟩
    | some ov => exact ⟨_, rfl, ih k s v ov (plainMembers_iff.1 hp _ hks) hv hov hsv⟩

-- `a.tupleFlat`: where a tuple of `a` dissolves into a `OneOf` (tupleArray, tuplesUnion), `sub_into_oneOf`
-- needs its elements not to be `OneOf`s themselves. `b.plain`: the zip keeps `s` below the wider element it
-- picks from `b` only by `sub_trans_plain`, composition into a plain shape (and `b` is no `OneOf`).
theorem Merged.keeps {a b r : Shape} (h : Merged a b r) : ∀ {s : Shape}, s.plain = true → a.wf = true →
    b.wf = true → a.tupleFlat = true → b.plain = true → isSubset s a = true → isSubset s r = true := by
  induction h with
  | nullLeft b =>
    intro s _ _ _ _ _ h
    rw [sub_null_inv h]
    exact null_subset_optional _ (asOptional_isOptional b)
  | nullRight a => exact fun _ _ _ _ _ h => sub_withOptional_right h fun _ => rfl
  | scalars k o p hk =>
    intro s _ _ _ _ _ h
    have := sub_withOptional_right (q := o || p) h (by
      rw [isOptional_withOptional, isScalar_not_null hk, Bool.or_false]
      exact flag_or_left p)
    rwa [withOptional_withOptional] at this
  | oneOfs | intoRight => exact fun _ _ _ _ hb => by cases hb
  | intoLeft vs o b => exact fun hs _ _ _ _ h => sub_addToOneOf_old (plain_not_oneOf hs) h
  | arrays t o t' p _ ih =>
    exact fun hs ha hb hf hpb h => sub_array_mono hs h (flag_or_left p) fun x hx => ih hx ha hb hf hpb
  | objects c o oc p _ ih =>
    intro s hs ha hb hf hpb h
    rw [wf_object_iff] at ha hb
    rcases sub_object_inv h with ⟨cs, ps, rfl, hcs, hp⟩ | ⟨rfl, hp⟩
    · rw [sub_object_object, flag_le_or hp, Bool.true_and]
      refine keeps_object ha.1 hb.1 (fun k s v ov hs hv hov => ?_) hs hcs
      exact ih k v ov hv hov hs (ha.2 _ (mem_of_mapGet hv)) (hb.2 _ (mem_of_mapGet hov))
        (tupleFlatMembers_iff.1 hf _ (mem_of_mapGet hv)) (plainMembers_iff.1 hpb _ (mem_of_mapGet hov))
    · rw [sub_object, hp]
      rfl
  | arrayTuple t o es p =>
    exact fun hs _ _ _ _ h => sub_array_mono hs h (flag_or_left p) fun x hx =>
      sub_arrayTupleVariants_elem (plain_not_oneOf hx)
  | tupleArray es p t o =>
    exact fun _ _ _ hf _ h => sub_tuple_to_array h (flag_or_right o) fun x e he =>
      sub_arrayTupleVariants_mem he (tuple_elems_not_oneOf hf e he)
  | tuplesZip es o os p folded hz =>
    intro s hs _ hb _ hpb h
    rcases sub_tuple_inv h with ⟨ss, ps, rfl, hzs, hp⟩ | ⟨rfl, hp⟩
    · exact sub_tuple_tuple_iff.2 ⟨fun h => flag_or_left p (hp h), hz.keeps hpb hb hzs⟩
    · rw [sub_tuple, hp]
      rfl
  | tuplesUnion es o os p =>
    exact fun _ _ _ hf _ h => sub_tuple_to_array h (flag_or_left p) fun x e he =>
      sub_tupleUnionVariants (.inl he) (tuple_elems_not_oneOf hf e he)
  | mixed a b hm =>
    exact fun _ _ _ _ _ h => sub_mixed_left (simple_not_oneOf (simple_of_mixes hm).1) h

/-- A sample shape that `is_subset` accepts against the accumulator is still accepted after the next merge. -/
theorem keeps {s a b : Shape} (hs : s.plain = true) (ha : a.wf = true) (hb : b.wf = true)
    (hfa : a.tupleFlat = true) (hpb : b.plain = true) (h : isSubset s a = true) :
    isSubset s (merger a b) = true :=
  (merged a b).keeps hs ha hb hfa hpb h

/-- `subset_withOptional` (Props/C10) with its arguments in another order, kept under its own name -/
theorem sub_self_flag {b : Shape} (hb : b.wf = true) (q : Bool) (hq : b.isOptional = true → q = true) :
    isSubset b (withOptional q b) = true := subset_withOptional b q hb hq

theorem Merged.newSample {a b r : Shape} (h : Merged a b r) :
    b.plain = true → a.wf = true → b.wf = true → isSubset b r = true := by
  induction h with
  | nullLeft b => exact fun _ _ hb => subset_as_optional b hb
  | nullRight a => exact fun _ _ _ => null_subset_optional _ (asOptional_isOptional a)
  | scalars k o p hk =>
    intro _ _ hb
    have := subset_withOptional _ (o || p) hb (by
      rw [isOptional_withOptional, isScalar_not_null hk, Bool.or_false]
      exact flag_or_right o)
    rwa [withOptional_withOptional] at this
  | oneOfs | intoRight => exact fun hb => by cases hb
  | intoLeft vs o b => exact fun hpb _ hb => sub_addToOneOf_new (plain_not_oneOf hpb) (subset_refl b hb)
  | arrays t o t' p _ ih =>
    intro hpb ha hb
    rw [sub_array_array, ih hpb ha hb, flag_le_or_right]
    rfl
  | objects c o oc p _ ih =>
    intro hpb ha hb
    rw [wf_object_iff] at ha hb
    rw [sub_object_object, flag_le_or_right, Bool.true_and, objSub_iff]
    refine ⟨fun k m hkm => ?_, fun k ov hko => ?_⟩
    · have hget := mapGet_eq_some_of_mem (sortedKeys_mergedContent c oc) hkm
      rw [mapGet_mergedContent ha.1 hb.1] at hget
      cases hov : mapGet k oc with
      | some ov => exact .inl (mapContainsKey_iff.2 ⟨ov, mem_of_mapGet hov⟩)
      | none =>
        cases hv : mapGet k c <;> simp only [hv, hov] at hget <;> cases hget
        exact .inr (nullableSyn_of_isOptional (asOptional_isOptional _))
    · rw [mapGet_mergedContent ha.1 hb.1, mapGet_eq_some_of_mem hb.1 hko]
      cases hv : mapGet k c with
      | none => exact ⟨_, rfl, subset_as_optional ov (hb.2 _ hko)⟩
      | some v =>
        exact ⟨_, rfl, ih k v ov hv (mapGet_eq_some_of_mem hb.1 hko) (plainMembers_iff.1 hpb _ hko)
          (ha.2 _ (mem_of_mapGet hv)) (hb.2 _ hko)⟩
  | arrayTuple t o es p =>
    intro hpb _ hb
    simp only [Shape.plain, plainList_iff, Shape.wf, wfList_iff] at hpb hb
    exact tuple_sub_array (flag_or_right o) fun e he =>
      sub_arrayTupleVariants_mem he (plain_not_oneOf (hpb e he)) (subset_refl e (hb e he))
  | tupleArray es p t o =>
    intro hpb _ hb
    rw [sub_array_array, flag_le_or id, Bool.true_and]
    exact sub_arrayTupleVariants_elem (plain_not_oneOf hpb) (subset_refl t hb)
  | tuplesZip es o os p folded hz =>
    intro _ _ hb
    exact sub_tuple_tuple_iff.2 ⟨flag_or_right o, hz.new hb⟩
  | tuplesUnion es o os p =>
    intro hpb _ hb
    simp only [Shape.plain, plainList_iff, Shape.wf, wfList_iff] at hpb hb
    exact tuple_sub_array (flag_or_right o) fun e he =>
      sub_tupleUnionVariants (.inr he) (plain_not_oneOf (hpb e he)) (subset_refl e (hb e he))
  | mixed a b hm => exact fun hpb _ hb => sub_mixed_right (plain_not_oneOf hpb) (subset_refl b hb)

/-- The shape of the document just merged in is accepted by `is_subset` against the result. -/
theorem newSample {a b : Shape} (hpb : b.plain = true) (ha : a.wf = true) (hb : b.wf = true) :
    isSubset b (merger a b) = true := (merged a b).newSample hpb ha hb

end ShapeVerif
