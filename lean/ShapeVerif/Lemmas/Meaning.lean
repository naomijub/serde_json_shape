/-
`meaningEq` ("admits the same documents") is an equivalence and a congruence for arrays, tuples
(position by position) and objects (key by key, two uses of `admits_object_mono`).
-/
import ShapeVerif.Lemmas.Admits
namespace ShapeVerif
open Shape Std

theorem meaningEq_refl (a : Shape) : meaningEq a a := fun _ => rfl
theorem meaningEq_symm {a b : Shape} (h : meaningEq a b) : meaningEq b a := fun d => (h d).symm
theorem meaningEq_trans {a b c : Shape} (h1 : meaningEq a b) (h2 : meaningEq b c) : meaningEq a c :=
  fun d => (h1 d).trans (h2 d)

theorem meaningEq_array {t t' : Shape} {o : Bool} (h : meaningEq t t') :
    meaningEq (.array t o) (.array t' o) := fun _ =>
  Bool.eq_iff_iff.2 ⟨admits_array_mono (fun y hy => h y ▸ hy) id, admits_array_mono (fun y hy => (h y).symm ▸ hy) id⟩

theorem admitsZip_congr : ∀ {es es' : List Shape}, Pointwise meaningEq es es' → ∀ xs,
    admitsZip es xs = admitsZip es' xs
  | [], [] => fun _ xs => rfl
  | [], _ :: _ => fun h _ => by cases h
  | _ :: _, [] => fun h _ => by cases h
  | e :: es, e' :: es' => fun h xs => by
    cases xs with
    | nil => simp [admitsZip]
    | cons x xs => simp only [admitsZip, h.1 x, admitsZip_congr h.2 xs]

theorem meaningEq_tuple {es es' : List Shape} {o : Bool} (h : Pointwise meaningEq es es') :
    meaningEq (.tuple es o) (.tuple es' o) := by
  intro d
  cases d <;> simp [admits]
  exact admitsZip_congr h _

def MembersEquiv (c c' : Members) : Prop :=
  ∀ k, match mapGet k c, mapGet k c' with
    | some v, some v' => meaningEq v v'
    | none, none => True
    | _, _ => False

theorem MembersEquiv.symm {c c' : Members} (h : MembersEquiv c c') : MembersEquiv c' c := fun k => by
  have := h k
  cases h1 : mapGet k c <;> cases h2 : mapGet k c' <;> simp only [h1, h2] at this ⊢
  exact meaningEq_symm this

theorem meaningEq_object {c c' : Members} {o : Bool} (hs : sortedKeys c = true) (hs' : sortedKeys c' = true)
    (h : MembersEquiv c c') : meaningEq (.object c o) (.object c' o) := by
  have key : ∀ {c c' : Members}, sortedKeys c' = true → MembersEquiv c c' →
      ∀ d, admits (.object c o) d = true → admits (.object c' o) d = true := by
    intro c c' hs' h d
    refine admits_object_mono hs' id fun k => ?_
    have := h k
    cases hv : mapGet k c <;> cases hv' : mapGet k c' <;> simp only [hv, hv'] at this ⊢
    exact fun d hd => (this d).symm.trans hd
  exact fun d => Bool.eq_iff_iff.2 ⟨key hs' h d, key hs h.symm d⟩

end ShapeVerif
