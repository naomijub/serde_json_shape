/-
Soundness of single-document inference: outside the D3 class (`conflictFree`) the inferred shape
admits the document it was inferred from.
-/
import ShapeVerif.Lemmas.InferSpec
import ShapeVerif.Lemmas.Admits
namespace ShapeVerif
open Shape Std

theorem inferEach_eq_map : ∀ xs : List Doc, inferEach xs = xs.map inferDoc
  | [] => rfl
  | x :: xs => congrArg (inferDoc x :: ·) (inferEach_eq_map xs)

theorem shapesOf_inferEach {xs : List Doc} {es : List Shape} (h : inferDocList xs = .ok es) :
    shapesOf (inferEach xs) = es := by
  rw [inferEach_eq_map, inferDocList_ok_iff_map.1 h, shapesOf, List.filterMap_map]
  exact List.filterMap_some

theorem conflictFreeList_iff {xs : List Doc} : conflictFreeList xs = true ↔ ∀ x ∈ xs, conflictFree x = true := by
  rw [all_of_rec (f := conflictFreeList) rfl (fun _ _ => rfl), List.all_eq_true]

theorem conflictFreeMembers_iff {ms : List (String × Doc)} :
    conflictFreeMembers ms = true ↔ ∀ kv ∈ ms, conflictFree kv.2 = true := by
  rw [all_of_rec (f := conflictFreeMembers) (p := (conflictFree ·.2)) rfl (fun _ _ => rfl), List.all_eq_true]

theorem eq_of_keysAgree {elems : List Shape} (h : keysAgree elems = true) {ca cb : Members} {oa ob : Bool}
    (ha : Shape.object ca oa ∈ elems) (hb : Shape.object cb ob ∈ elems) {k : String} {v v' : Shape}
    (hva : mapGet k ca = some v) (hvb : mapGet k cb = some v') : v = v' := by
  have := List.all_eq_true.1 (List.all_eq_true.1 (List.all_eq_true.1 h _ ha) _ hb) (k, v) (mem_of_mapGet hva)
  simp only [hvb, cmp_beq_eq_iff] at this
  exact this

theorem specLookup_of_missing {k : String} {c : Members} {o : Bool} {elems : List Shape} {s : Shape}
    (hm : Shape.object c o ∈ elems) (hg : mapGet k c = none) (h : specLookup k elems = some s) :
    ∃ sf : Shape, s = sf.asOptional := by
  have : elems.all (hasKey k) = false :=
    Bool.eq_false_iff.2 fun h => by simpa [hasKey, hg] using List.all_eq_true.1 h _ hm
  unfold specLookup at h
  split at h
  · cases h
  · rw [this] at h
    exact ⟨_, (Option.some.inj h).symm⟩

theorem specLookup_of_agree {k : String} {c : Members} {o : Bool} {elems : List Shape} {v : Shape}
    (hagree : keysAgree elems = true) (hm : Shape.object c o ∈ elems) (hv : mapGet k c = some v) :
    specLookup k elems = some v ∨ specLookup k elems = some v.asOptional := by
  obtain ⟨sf, hsf⟩ := firstValue_isSome hm hv
  obtain ⟨c', o', hm', hg'⟩ := firstValue_some hsf
  obtain rfl : sf = v := eq_of_keysAgree hagree hm' hm hg' hv
  simp only [specLookup, hsf]
  split <;> simp

/-- Whatever the shape of one element admits, the merged object admits: a key of the element keeps
its shape or gets the optional form, a key the element lacks is optional. This is where `keysAgree`
is needed: the merged object keeps the shape a key has where it first occurs. -/
theorem mergeObjectElements_admits_element {elems : List Shape} {M c : Members} (hM : sortedKeys M = true)
    (hspec : ∀ k, mapGet k M = specLookup k elems) (hagree : keysAgree elems = true)
    (hmem : Shape.object c false ∈ elems) {x : Doc}
    (hadm : admits (.object c false) x = true) : admits (.object M false) x = true := by
  refine admits_object_mono hM id (fun k => ?_) hadm
  rw [hspec k]
  cases hv : mapGet k c with
  | none =>
    cases hs : specLookup k elems with
    | none => trivial
    | some s =>
      obtain ⟨sf, rfl⟩ := specLookup_of_missing hmem hv hs
      exact admits_asOptional_null sf
  | some v =>
    rcases specLookup_of_agree hagree hmem hv with h | h <;> rw [h]
    · exact fun _ hd => hd
    · exact fun _ => admits_asOptional

/-- **inference soundness** (C01): outside the D3 class, a document is a member of the shape inferred
from it -/
theorem infer_sound {d : Doc} {s : Shape} (hcf : conflictFree d = true) (h : inferDoc d = .ok s) :
    admits s d = true := by
  induction d generalizing s with
  | arr xs ih =>
    obtain ⟨es, hes, hc⟩ := inferDoc_arr_ok.1 h
    simp only [conflictFree, Bool.and_eq_true, shapesOf_inferEach hes, conflictFreeList_iff] at hcf
    have pw := inferDocList_ok_iff_pointwise.1 hes
    have pwa : Pointwise (fun x e => admits e x = true) xs es :=
      pw.imp_mem fun x hx e _ hxe => ih x hx (hcf.1 x hx) hxe
    rcases classifyArray_cases es with ⟨rfl, h'⟩ | ⟨e, rest, rfl, hae, h'⟩ | ⟨c, o, rest, rfl, _, hobj, h'⟩ |
      ⟨_, _, h'⟩
    all_goals
      rw [h'] at hc
      cases hc
    · cases xs with
      | nil => rfl
      | cons _ _ => cases pw
    · rw [admits_array_arr, List.all_eq_true]
      intro x hx
      obtain ⟨e', he', hxe⟩ := pwa.mem_left x hx
      rcases List.mem_cons.1 he' with rfl | he'
      · exact hxe
      · exact (allEqual_cons_iff e rest).1 hae e' he' ▸ hxe
    · -- every element is an object with the flag off, admitted by its own shape
      obtain ⟨hwf, hno, hflag⟩ := inferDocList_wf_noOneOfValues_flagOff hes
      have hsorted : sortedKeys c = true := (Bool.and_eq_true_iff.1 (wfList_iff.1 hwf _ List.mem_cons_self)).1
      rw [admits_array_arr, List.all_eq_true]
      intro x hx
      obtain ⟨e, he, hxe⟩ := pwa.mem_left x hx
      have : e.isObject = true := (List.mem_cons.1 he).elim (· ▸ rfl) (List.all_eq_true.1 hobj e)
      obtain ⟨c', o', rfl⟩ := isObject_cases this
      cases hflag c' o' he
      exact mergeObjectElements_admits_element (sortedKeys_mergeObjectElements rest hsorted)
        (fun k => mapGet_mergeObjectElements k c o rest hobj hno) hcf.2 he hxe
    · rw [admits_tuple_arr]
      exact admitsZip_iff.2 pwa.flip
  | obj ms ih =>
    obtain ⟨c, rfl, hs, hm, ho⟩ := inferDoc_obj_iff.1 h
    simp only [conflictFree, conflictFreeMembers_iff] at hcf
    rw [admits_object_obj, Bool.and_eq_true, List.all_eq_true, absentOk_iff_mapGet hs]
    refine ⟨fun kv hkv => ?_, fun k s hg => .inl (ho k s hg)⟩
    obtain ⟨sv, hsv, hg⟩ := hm kv hkv
    simp only [admitsKey_eq_mapGet, hg]
    exact ih kv hkv (hcf kv hkv) hsv
  | _ =>
    cases h
    rfl

end ShapeVerif
