/-
The depth of the tree the recovering parser builds is bounded by the bracket nesting the lexer allows.

`rule_value`, `rule_object`, `rule_member`, `rule_array` of the generated parser call each other
recursively, and `parse_cst` recurses over the tree they build; there is one stack frame per level of
the tree. `rules_depth`: what a rule function emits is at most `2·H + c` deep, `H` the largest number of
brackets a prefix of the remaining tokens leaves open (an open brace costs two levels, `object` and
`member`). The parser opens a nested object/array node only after consuming an opening bracket that is
still open, and never consumes a closing bracket except to end the innermost open node — stray closers
are never skipped by the recovery loops (they end the loop instead), so the part of the input consumed
inside an open node never has more closers than openers. The lexer gives `H ≤ 256` (`tokenize_depth`,
Lemmas/LexInv.lean); Props/C05.lean concludes depth ≤ `1 + (2·256 + 2)` = 515 for every input, stated as 516.
-/
import ShapeVerif.Lemmas.ParseYield
import ShapeVerif.Ref.JsonText
namespace ShapeVerif

/-- **b**racket **w**eight. LexRun's `bump k d` is `d + bw k`; both spell the expression written inline in
`depthFrom`, and `H_of_depthFrom` is where the two meet. -/
def bw (k : Tok) : Int :=
  if k == .lbrace || k == .lbrak then 1 else if k == .rbrace || k == .rbrak then -1 else 0

/-- openers minus closers -/
def excess : List Token → Int
  | [] => 0
  | t :: ts => bw t.kind + excess ts

/-- the **h**eight: the largest excess of a prefix (the empty prefix included, so `0 ≤ H`) -/
def H : List Token → Int
  | [] => 0
  | t :: ts => max 0 (bw t.kind + H ts)

theorem H_nonneg : ∀ ts, 0 ≤ H ts
  | [] => Int.le_refl 0
  | _ :: _ => Int.le_max_left _ _

theorem excess_append : ∀ a b, excess (a ++ b) = excess a + excess b
  | [], b => by simp [excess]
  | t :: a, b => by simp [excess, excess_append a b, Int.add_assoc]

theorem H_append : ∀ c ts, excess c + H ts ≤ H (c ++ ts)
  | [], ts => by simp [excess]
  | t :: c, ts => by
    have ih := H_append c ts
    simp only [excess, List.cons_append, H]
    have : bw t.kind + H (c ++ ts) ≤ max 0 (bw t.kind + H (c ++ ts)) := Int.le_max_right _ _
    omega

theorem H_of_yield {c ts ts0 : List Token} (h : c ++ ts = ts0) : H ts ≤ H ts0 - excess c := by
  have := H_append c ts
  rw [h] at this
  omega

/-- `depthFrom` (the lexer's counter never exceeds 256 on any prefix) bounds `H` -/
theorem H_of_depthFrom : ∀ (ts : List Token) (n : Int), n ≤ 256 → depthFrom n (ts.map (·.kind)) = true → n + H ts ≤ 256
  | [], n, hn, _ => by simp [H]; omega
  | t :: ts, n, hn, h => by
    simp only [List.map_cons, depthFrom, Bool.and_eq_true, decide_eq_true_eq] at h
    obtain ⟨h1, h2⟩ := h
    have ih := H_of_depthFrom ts _ h1 h2
    simp only [H]
    have hb : (if (t.kind == Tok.lbrace || t.kind == Tok.lbrak) = true then n + 1
        else if (t.kind == Tok.rbrace || t.kind == Tok.rbrak) = true then n - 1 else n) = n + bw t.kind := by
      unfold bw
      split
      · rfl
      · split <;> omega
    rw [hb] at ih h1
    have : max 0 (bw t.kind + H ts) ≤ 256 - n := by
      apply Int.max_le.mpr
      constructor <;> omega
    omega

mutual
def Node.depth : Node → Nat
  | .tok _ _ _ => 0
  | .rule _ cs => 1 + depthList cs
def depthList : List Node → Nat
  | [] => 0
  | n :: ns => max n.depth (depthList ns)
end

def itemsDepth (is : List Item) : Nat := depthList (is.map (·.node))

theorem depthList_le_iff (l : List Node) (d : Nat) : depthList l ≤ d ↔ ∀ n ∈ l, n.depth ≤ d := by
  induction l with
  | nil => simp [depthList]
  | cons n ns ih => simp only [depthList, Nat.max_le, ih, List.mem_cons, forall_eq_or_imp]

theorem itemsDepth_le_iff (l : List Item) (d : Nat) : itemsDepth l ≤ d ↔ ∀ i ∈ l, i.node.depth ≤ d := by
  simp only [itemsDepth, depthList_le_iff, List.mem_map, forall_exists_index, and_imp, forall_apply_eq_imp_iff₂]

theorem itemsDepth_append (a b : List Item) : itemsDepth (a ++ b) = max (itemsDepth a) (itemsDepth b) := by
  induction a with
  | nil => exact (Nat.zero_max _).symm
  | cons i a ih =>
    show max i.node.depth (itemsDepth (a ++ b)) = max (max i.node.depth (itemsDepth a)) (itemsDepth b)
    rw [ih, Nat.max_assoc]

@[simp] theorem itemsDepth_nil : itemsDepth [] = 0 := rfl

theorem itemsDepth_closeRule (r : Rule) (items : List Item) : itemsDepth (closeRule r items) ≤ 1 + itemsDepth items := by
  obtain ⟨inside, trailing, rfl, e⟩ := closeRule_split r items
  rw [e, itemsDepth_append]
  exact Nat.max_le.2 ⟨Nat.add_le_add_left (Nat.le_max_left (itemsDepth inside) _) 1,
    Nat.le_trans (Nat.le_max_right _ _) (Nat.le_add_left _ 1)⟩

theorem takeSkips_items : ∀ (ts : List Token), itemsDepth (takeSkips ts).1 = 0 ∧ excess (yieldItems (takeSkips ts).1) = 0
  | [] => by simp [takeSkips, excess]
  | t :: ts => by
    unfold takeSkips
    split
    · rename_i hs
      obtain ⟨h1, h2⟩ := takeSkips_items ts
      constructor
      · have : itemsDepth (⟨.tok t.kind t.start t.stop, true⟩ :: (takeSkips ts).1) =
            max 0 (itemsDepth (takeSkips ts).1) := rfl
        rw [this, h1]; rfl
      · simp only [yieldItems_cons, leaves, List.cons_append, List.nil_append, excess, h2]
        have : bw t.kind = 0 := by revert hs; cases t.kind <;> decide
        omega
    · simp [excess]

theorem advance_items (s : PState) (e : Bool) (hc : Coh s) (hne : s.toks ≠ []) :
    itemsDepth (s.advance e).2 = 0 ∧ excess (yieldItems (s.advance e).2) = bw s.current := by
  unfold PState.advance
  cases ht : s.toks with
  | nil => exact absurd ht hne
  | cons t ts =>
    obtain ⟨h1, h2⟩ := takeSkips_items ts
    have hk : s.current = t.kind := by rw [hc, ht]; rfl
    constructor
    · have : itemsDepth (⟨.tok t.kind t.start t.stop, false⟩ :: (takeSkips ts).1) =
          max 0 (itemsDepth (takeSkips ts).1) := rfl
      simp only [this, h1]; rfl
    · simp only [yieldItems_cons, leaves, List.cons_append, List.nil_append, excess, h2, hk]
      omega

/-- what a rule function emits: at least as many openers as closers, and a tree whose depth is
bounded by the bracket nesting still possible in the remaining tokens -/
def Shallow (f : PState → PState × List Item) (c : Int) (guard : PState → Prop) : Prop :=
  ∀ s, Coh s → guard s → 0 ≤ excess (yieldItems (f s).2) ∧ (itemsDepth (f s).2 : Int) ≤ 2 * H s.toks + c

/-- one run, from `s` to `r`: the items emitted hold at least `x` more openers than closers and are at most
`2·H s + c` deep; the last part, which every run has that `Yields`, says how much nesting is left after it -/
def Deep (s : PState) (r : PState × List Item) (x c : Int) : Prop :=
  x ≤ excess (yieldItems r.2) ∧ (itemsDepth r.2 : Int) ≤ 2 * H s.toks + c ∧
    H r.1.toks + excess (yieldItems r.2) ≤ H s.toks

namespace Deep
variable {s : PState} {r r1 r2 : PState × List Item} {x x' x1 x2 c c' c1 c2 : Int}

theorem skip (s : PState) : Deep s (s, []) 0 0 :=
  ⟨Int.le_refl 0, by have := H_nonneg s.toks; simp only [itemsDepth_nil]; omega, by simp [excess]⟩

/-- the second run sits under the `x1` brackets the first has opened: that much less nesting is left for it -/
theorem seq (h1 : Deep s r1 x1 c1) (h2 : Deep r1.1 r2 x2 c2) :
    Deep s (r2.1, r1.2 ++ r2.2) (x1 + x2) (max c1 (c2 - 2 * x1)) := by
  obtain ⟨a1, b1, e1⟩ := h1
  obtain ⟨a2, b2, e2⟩ := h2
  simp only [Deep, yieldItems_append, excess_append, itemsDepth_append]
  omega

theorem close (rule : Rule) (h : Deep s r x c) : Deep s (r.1, closeRule rule r.2) x (c + 1) := by
  obtain ⟨a, b, e⟩ := h
  have := itemsDepth_closeRule rule r.2
  simp only [Deep, yield_closeRule]
  omega

theorem mono (h : Deep s r x c) (hx : x' ≤ x) (hc : c ≤ c') : Deep s r x' c' :=
  ⟨Int.le_trans hx h.1, Int.le_trans h.2.1 (Int.add_le_add_left hc _), h.2.2⟩

/-- back to the body of `Shallow` -/
theorem shallow (h : Deep s r x c) (hx : 0 ≤ x) (hc : c ≤ c') :
    0 ≤ excess (yieldItems r.2) ∧ (itemsDepth r.2 : Int) ≤ 2 * H s.toks + c' :=
  ⟨Int.le_trans hx h.1, Int.le_trans h.2.1 (Int.add_le_add_left hc _)⟩

end Deep

theorem Shallow.deep {f : Step} {c : Int} {g : PState → Prop} (h : Shallow f c g) (hy : Yields f) {s : PState}
    (hc : Coh s) (hg : g s) : Deep s (f s) 0 c :=
  ⟨(h s hc hg).1, (h s hc hg).2, by have := H_of_yield (hy s); omega⟩

theorem Shallow.mono {f : Step} {c c' : Int} {g : PState → Prop} (h : Shallow f c g) (hc : c ≤ c') : Shallow f c' g :=
  fun s hs hg => ⟨(h s hs hg).1, by have := (h s hs hg).2; omega⟩

theorem bw_ge (k : Tok) : -1 ≤ bw k := by cases k <;> decide

/-- an `expect` emits the token it expects, or nothing -/
theorem expect_deep (s : PState) (k : Tok) (hc : Coh s) (hne : k ≠ .eof) : Deep s (s.expect k) (min 0 (bw k)) 0 := by
  have hy : H (s.expect k).1.toks ≤ H s.toks - excess (yieldItems (s.expect k).2) := H_of_yield (expect_yields k s)
  have hH := H_nonneg s.toks
  unfold PState.expect at hy ⊢
  by_cases hk : (s.current == k) = true
  · rw [if_pos hk] at hy ⊢
    have := advance_items s false hc (toks_ne_of_current hc hk hne)
    rw [beq_iff_eq.1 hk] at this
    simp only [Deep, this.1, this.2] at hy ⊢
    omega
  · rw [if_neg hk] at hy ⊢
    simp only [Deep, yieldItems_nil, excess, itemsDepth_nil] at hy ⊢
    omega

theorem expect_deep0 (s : PState) (k : Tok) (hc : Coh s) (hne : k ≠ .eof) (hb : bw k = 0) : Deep s (s.expect k) 0 0 :=
  (expect_deep s k hc hne).mono (by rw [hb]; decide) (Int.le_refl 0)

theorem expect_deep_of (s : PState) (k : Tok) (hc : Coh s) (hne : k ≠ .eof) (hk : (s.current == k) = true) :
    Deep s (s.expect k) (bw k) 0 := by
  have h := expect_deep s k hc hne
  refine ⟨?_, h.2⟩
  unfold PState.expect
  rw [if_pos hk, (advance_items s false hc (toks_ne_of_current hc hk hne)).2, beq_iff_eq.1 hk]
  exact Int.le_refl _

theorem advanceWithError_deep (s : PState) (hc : Coh s) (hne : s.current ≠ .eof) :
    Deep s s.advanceWithError (bw s.current) 1 := by
  have hy := H_of_yield (yields_trace.advanceWithError s)
  have hH := H_nonneg s.toks
  unfold PState.advanceWithError at hy ⊢
  have hc' : Coh { s.error with cooldown := true } := coh_stable.cooldown _ (coh_stable.error s hc)
  have hcur : ({ s.error with cooldown := true } : PState).current = s.current := by
    unfold PState.error; split <;> rfl
  have hne' : ({ s.error with cooldown := true } : PState).toks ≠ [] := by
    have := toks_ne_of_current hc (beq_self_eq_true _) hne
    simpa [error_toks] using this
  obtain ⟨h1, h2⟩ := advance_items { s.error with cooldown := true } true hc' hne'
  rw [hcur] at h2
  have hd := itemsDepth_closeRule .error (({ s.error with cooldown := true } : PState).advance true).2
  simp only [Deep, yield_closeRule, h1, h2] at hy hd ⊢
  omega

theorem error_deep (s : PState) : Deep s (s.error, []) 0 0 := by
  have := Deep.skip s
  simp only [Deep, error_toks] at this ⊢
  exact this

theorem litStep_deep (s : PState) (k : Tok) (hc : Coh s) (hk : isLiteralStart k = true) : Deep s (litStep k s) 0 2 := by
  have e := expect_deep0 s k hc (by rintro rfl; cases hk) (by revert hk; cases k <;> decide)
  unfold litStep
  split
  · exact ((e.close .boolean).close .literal).mono (Int.le_refl 0) (by decide)
  · exact (e.close .literal).mono (Int.le_refl 0) (by decide)

theorem stop_spec : (∀ k, stopO k = false → k ≠ .eof ∧ 0 ≤ bw k) ∧ (∀ k, stopA k = false → k ≠ .eof ∧ 0 ≤ bw k) := by
  constructor <;> intro k <;> cases k <;> decide

/-- the recovery loop never skips a closer: both loops stop at `}`, `]` and the end -/
theorem Shallow.sepLoop {stop : Tok → Bool} {item again : Step} {c : Int}
    (hstop : ∀ k, stop k = false → k ≠ .eof ∧ 0 ≤ bw k) (hc1 : 1 ≤ c) (kI : Keeps Coh item) (yI : Yields item)
    (yA : Yields again) (hi : Shallow item c fun _ => True) (ha : Shallow again c fun _ => True) :
    Shallow (sepLoop stop item again) c fun _ => True := by
  intro s hc _
  unfold ShapeVerif.sepLoop
  split
  · have c1 := coh_stable.expect .comma s hc
    -- comma 0/0, item 0/c, loop 0/c
    exact (((expect_deep0 s .comma hc (by decide) rfl).seq (hi.deep yI c1 trivial)).seq
      (ha.deep yA (kI _ c1) trivial)).shallow (by decide) (by omega)
  split
  · exact (Deep.skip s).shallow (Int.le_refl 0) (by omega)
  · rename_i h2
    obtain ⟨hne, hb⟩ := hstop _ (by simpa using h2)
    -- the skipped token is no closer, its error node one level
    exact ((advanceWithError_deep s hc hne).seq (ha.deep yA (coh_stable.advanceWithError s hc) trivial)).shallow
      (by omega) (by omega)

/-- a bracketed list is one level deeper than its items, which see one bracket less of nesting -/
theorem Shallow.bracket (r : Rule) {op cl : Tok} (first : Tok → Bool) {item loop : Step} (hop : bw op = 1)
    (hop0 : op ≠ .eof) (hcl0 : cl ≠ .eof) (kI : Keeps Coh item) (yI : Yields item) (kL : Keeps Coh loop)
    (yL : Yields loop) (hi : Shallow item 3 fun _ => True) (hl : Shallow loop 3 fun _ => True) :
    Shallow (bracket r op cl first item loop) 2 fun s => (s.current == op) = true := by
  intro s hc hk
  have c1 := coh_stable.expect op s hc
  have o := expect_deep_of s op hc hop0 hk
  rw [hop] at o
  -- opener 1/0, body 0/3 under it, closer ≥ -1: in all ≥ 0 and 1 deep; the node one more
  have fin : ∀ mid : PState × List Item, Coh mid.1 → Deep (s.expect op).1 mid 0 3 →
      0 ≤ excess (yieldItems (closeRule r ((s.expect op).2 ++ mid.2 ++ (mid.1.expect cl).2))) ∧
      (itemsDepth (closeRule r ((s.expect op).2 ++ mid.2 ++ (mid.1.expect cl).2)) : Int) ≤ 2 * H s.toks + 2 :=
    fun mid cm m => (((o.seq m).seq (expect_deep mid.1 cl cm hcl0)).close r).shallow
      (by have := bw_ge cl; omega) (by omega)
  unfold ShapeVerif.bracket optList Step.close Step.seq
  dsimp only
  split
  · exact fin (_, _) (kL _ (kI _ c1)) (((hi.deep yI c1 trivial).seq (hl.deep yL (kI _ c1) trivial)).mono
      (by decide) (by decide))
  split
  · exact fin (_, []) c1 ((Deep.skip _).mono (by decide) (by decide))
  · exact fin (_, []) (coh_stable.error _ c1) ((error_deep _).mono (by decide) (by decide))

theorem rules_depth (fuel : Nat) :
    Shallow (ruleValue fuel) 2 (fun _ => True) ∧ Shallow (ruleMember fuel) 3 (fun _ => True) ∧
    Shallow (objectLoop fuel) 3 (fun _ => True) ∧
    Shallow (ruleObject fuel) 2 (fun s => (s.current == .lbrace) = true) ∧
    Shallow (arrayLoop fuel) 2 (fun _ => True) ∧
    Shallow (ruleArray fuel) 2 (fun s => (s.current == .lbrak) = true) := by
  induction fuel with
  | zero =>
    refine ⟨?_, ?_, ?_, ?_, ?_, ?_⟩ <;> intro s _ _ <;>
      exact (Deep.skip s).shallow (Int.le_refl 0) (by decide)
  | succ fuel ih =>
    obtain ⟨ihV, ihM, ihOL, ihO, ihAL, ihA⟩ := ih
    obtain ⟨kV, kM, kOL, -, kAL, -⟩ := coh_stable.rules fuel
    obtain ⟨yV, yM, yOL, -, yAL, -⟩ := rules_yield fuel
    refine ⟨?_, ?_, ?_, ?_, ?_, ?_⟩
    · intro s hc _
      rw [ruleValue_succ]
      by_cases hO : (s.current == .lbrace) = true
      · rw [if_pos hO]
        exact ihO s hc hO
      rw [if_neg hO]
      by_cases hA : (s.current == .lbrak) = true
      · rw [if_pos hA]
        exact ihA s hc hA
      rw [if_neg hA]
      split
      · rename_i hk
        rw [ruleLiteral_eq, if_pos hk]
        exact (litStep_deep s _ hc hk).shallow (Int.le_refl 0) (Int.le_refl 2)
      · exact (error_deep s).shallow (Int.le_refl 0) (by decide)
    · intro s hc _
      rw [ruleMember_succ]
      have c1 := coh_stable.expect .string s hc
      -- string 0/0, colon 0/0, value 0/2; the node one more
      exact ((((expect_deep0 s .string hc (by decide) rfl).seq (expect_deep0 _ .colon c1 (by decide) rfl)).seq
        (ihV.deep yV (coh_stable.expect .colon _ c1) trivial)).close .member).shallow (by decide) (by decide)
    · rw [objectLoop_succ]
      exact .sepLoop stop_spec.1 (by decide) kM yM yOL ihM ihOL
    · rw [ruleObject_succ]
      exact .bracket _ _ rfl (by decide) (by decide) kM yM kOL yOL ihM ihOL
    · rw [arrayLoop_succ]
      exact .sepLoop stop_spec.2 (by decide) kV yV yAL ihV ihAL
    · rw [ruleArray_succ]
      exact .bracket _ _ rfl (by decide) (by decide) kV yV kAL yAL (ihV.mono (by decide)) (ihAL.mono (by decide))

theorem itemsDepth_tokens (ts : List Token) (f : Token → Bool) :
    itemsDepth (ts.map fun t => (⟨.tok t.kind t.start t.stop, f t⟩ : Item)) = 0 := by
  apply Nat.le_antisymm _ (Nat.zero_le _)
  rw [itemsDepth_le_iff]
  intro i hi
  obtain ⟨t, _, rfl⟩ := List.mem_map.1 hi
  simp [Node.depth]

theorem parseTail_depth (s : PState) : itemsDepth (parseTail s).2 ≤ 1 := by
  unfold parseTail
  split
  · have := itemsDepth_closeRule .error (s.error.toks.map fun t => (⟨.tok t.kind t.start t.stop, isSkipTok t.kind⟩ : Item))
    rw [itemsDepth_tokens] at this
    exact this
  · simp

end ShapeVerif
