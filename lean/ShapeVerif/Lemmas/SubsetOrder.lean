/-
What `isSubset` respects: raising the flag of the right-hand side, adding variants to a `OneOf` on the
right or turning the right-hand side into a variant of one, and, into a `plain` right-hand side,
composition: that is the case the merge proofs need, and in general `is_subset` does not compose
(`Null ⊑ OneOf[Null | Boolean] ⊑ OneOf[Option<Boolean>]`, but `Null ⋢ OneOf[Option<Boolean>]`).
-/
import ShapeVerif.Lemmas.SubsetEqs
namespace ShapeVerif
open Shape

theorem sub_withOptional_right {s a : Shape} {q : Bool} (h : isSubset s a = true)
    (hq : a.isOptional = true → q = true) : isSubset s (withOptional q a) = true := by
  cases ha : a.isOneOf with
  | false =>
    -- against anything but a `OneOf` the flag of the right-hand side enters one comparison of flags
    have ha' := (isOneOf_withOptional q a).trans ha
    have hq' : a.isOptional = true → (withOptional q a).isOptional = true := fun ho => by
      rw [isOptional_withOptional, hq ho]
      rfl
    rcases s.classes with rfl | hs | hs | ⟨vs, o, rfl⟩
    · rw [null_sub_nonOneOf ha] at h
      rw [null_sub_nonOneOf ha']
      exact hq' h
    · rw [scalar_sub_nonOneOf hs ha, Bool.and_comm] at h
      rw [scalar_sub_nonOneOf hs ha', tag_withOptional, Bool.and_comm]
      exact flag_mono h hq'
    · rw [container_sub_nonOneOf hs ha] at h
      rw [container_sub_nonOneOf hs ha', show (withOptional q a).asNonOptional = a.asNonOptional from withOptional_withOptional ..]
      exact flag_mono h hq'
    · rw [oneOf_sub_nonOneOf ha] at h
      cases h
  | true =>
    cases a <;> cases ha
    rw [withOptional]
    rcases s.classes with rfl | hs | hs | ⟨vs, o, rfl⟩
    · rw [null_sub_oneOf, Bool.or_eq_true] at h ⊢
      exact h.imp_left hq
    · rwa [scalar_sub_oneOf hs] at h ⊢
    · rw [container_sub_oneOf hs, List.any_eq_true] at h ⊢
      obtain ⟨v, hv, hc⟩ := h
      refine ⟨v, hv, nullOk_mono hc fun h => ?_⟩
      rw [Bool.or_eq_true] at h ⊢
      exact h.imp_left hq
    · rw [sub_oneOf_oneOf] at h ⊢
      exact flag_mono h hq
theorem isOptional_of_sub {x y : Shape} (hy : y.isOneOf = false) (hx : nullableSyn x = true)
    (h : isSubset x y = true) : y.isOptional = true := by
  rcases x.classes with rfl | hs | hs | ⟨_, _, rfl⟩
  · rwa [null_sub_nonOneOf hy] at h
  · rw [scalar_sub_nonOneOf hs hy, Bool.and_eq_true, flag_le] at h
    rw [nullableSyn_simple (isScalar_not_oneOf hs)] at hx
    exact h.2 hx
  · rw [container_sub_nonOneOf hs hy, Bool.and_eq_true, flag_le] at h
    rw [nullableSyn_simple (simple_not_oneOf (simple_of_isContainer hs))] at hx
    exact h.1 hx
  · rw [oneOf_sub_nonOneOf hy] at h
    cases h

theorem sub_oneOf_mono {s : Shape} {vs ws : List Shape} {o o' : Bool}
    (h : isSubset s (.oneOf vs o) = true) (hsub : ∀ v ∈ vs, v ∈ ws)
    (hflag : o = true → o' = true ∨ Shape.null ∈ ws) (hs : s.isOneOf = false) :
    isSubset s (.oneOf ws o') = true := by
  have hnull : (o || setContains .null vs) = true → (o' || setContains .null ws) = true := by
    simp only [Bool.or_eq_true, setContains_iff]
    exact fun hh => hh.elim (fun ho => hflag ho) (fun hn => .inr (hsub _ hn))
  rcases s.classes with rfl | hs | hs | ⟨_, _, rfl⟩
  · rw [null_sub_oneOf] at h ⊢
    exact hnull h
  · simp only [scalar_sub_oneOf hs, Bool.or_eq_true, Bool.and_eq_true, setContains_iff, List.any_eq_true] at h ⊢
    exact h.imp (.imp_right (hsub _)) (.imp (fun ⟨v, hv, ht⟩ => ⟨v, hsub v hv, ht⟩) (hsub _))
  · rw [container_sub_oneOf hs, List.any_eq_true] at h ⊢
    obtain ⟨v, hv, hc⟩ := h
    exact ⟨v, hsub v hv, nullOk_mono hc hnull⟩
  · cases hs

/-- `x` enters the variants `ws` as `withOptional q x`, a flag that is on only if `x` is optional -/
theorem sub_into_oneOf_withOptional {s x : Shape} {q : Bool} {ws : List Shape} {o' : Bool}
    (hx : x.isOneOf = false) (hsx : isSubset s x = true) (hmem : withOptional q x ∈ ws)
    (hq : q = true → x.isOptional = true) (hnull : x.isOptional = true → Shape.null ∈ ws) :
    isSubset s (.oneOf ws o') = true := by
  rcases s.classes with rfl | hs | hs | ⟨_, _, rfl⟩
  · rw [null_sub_nonOneOf hx] at hsx
    rw [null_sub_oneOf, setContains_iff.2 (hnull hsx), Bool.or_true]
  · simp only [scalar_sub_nonOneOf hs hx, Bool.and_eq_true, beq_iff_eq, flag_le] at hsx
    simp only [scalar_sub_oneOf hs, Bool.or_eq_true, Bool.and_eq_true, setContains_iff, List.any_eq_true,
      beq_iff_eq, Bool.not_eq_true']
    cases hxo : x.isOptional with
    | true => exact .inr ⟨⟨_, hmem, (tag_withOptional q x).trans hsx.1⟩, hnull hxo⟩
    | false =>
      -- neither `s` nor the variant is optional, so the variant is the non-optional form of `s`
      have hso : s.isOptional = false := Bool.eq_false_iff.2 fun h => by cases (hsx.2 h).symm.trans hxo
      have hqf : q = false := Bool.eq_false_iff.2 fun h => by cases (hq h).symm.trans hxo
      rw [atom_eq_withOptional (isAtom_of_isScalar hs) hsx.1, hxo, hqf, withOptional_withOptional] at hmem
      exact .inl ⟨hso, hmem⟩
  · simp only [container_sub_nonOneOf hs hx, Bool.and_eq_true, flag_le] at hsx
    rw [container_sub_oneOf hs, List.any_eq_true]
    refine ⟨_, hmem, ?_⟩
    rw [container_sub_withOptional hs hx, hsx.2, isOneOf_withOptional, hx]
    cases hso : s.isOptional with
    | false => simp
    | true => simp [setContains_iff.2 (hnull (hsx.1 hso))]
  · rw [oneOf_sub_nonOneOf hx] at hsx
    cases hsx

theorem sub_into_oneOf {s x : Shape} {ws : List Shape} {o' : Bool} (hx : x.isOneOf = false)
    (hsx : isSubset s x = true) (hmem : x.asNonOptional ∈ ws) (hnull : x.isOptional = true → Shape.null ∈ ws) :
    isSubset s (.oneOf ws o') = true :=
  sub_into_oneOf_withOptional hx hsx hmem nofun hnull

theorem sub_into_oneOf_self {s x : Shape} {ws : List Shape} {o' : Bool} (hx : x.isOneOf = false)
    (hsx : isSubset s x = true) (hmem : x ∈ ws) (hnull : x.isOptional = true → Shape.null ∈ ws) :
    isSubset s (.oneOf ws o') = true :=
  sub_into_oneOf_withOptional hx hsx ((withOptional_self x).symm ▸ hmem) id hnull

theorem sub_array_mono {s t u : Shape} {o q : Bool} (hs : s.plain = true) (h : isSubset s (.array t o) = true)
    (hq : o = true → q = true) (hu : ∀ x, x.plain = true → isSubset x t = true → isSubset x u = true) :
    isSubset s (.array u q) = true := by
  rw [sub_array] at h ⊢
  split at h
  · exact hq h
  · rw [Bool.and_eq_true, flag_le] at h ⊢
    exact ⟨hq ∘ h.1, hu _ hs h.2⟩
  · rw [Bool.and_eq_true, flag_le, List.all_eq_true] at h ⊢
    exact ⟨hq ∘ h.1, fun x hx => hu x (plainList_iff.1 hs x hx) (h.2 x hx)⟩
  · cases h

theorem sub_tuple_to_array {s u : Shape} {es : List Shape} {o q : Bool}
    (h : isSubset s (.tuple es o) = true) (hq : o = true → q = true)
    (hu : ∀ x, ∀ e ∈ es, isSubset x e = true → isSubset x u = true) :
    isSubset s (.array u q) = true := by
  rcases sub_tuple_inv h with ⟨ss, ps, rfl, hz, hp⟩ | ⟨rfl, hp⟩
  · rw [sub_array, Bool.and_eq_true, flag_le, List.all_eq_true]
    refine ⟨hq ∘ hp, fun x hx => ?_⟩
    obtain ⟨e, he, hxe⟩ := hz.mem_left x hx
    exact hu x e he hxe
  · rw [sub_array]
    exact hq hp

theorem tuple_sub_array {es : List Shape} {V : Shape} {o q : Bool} (hq : o = true → q = true)
    (h : ∀ e ∈ es, isSubset e V = true) : isSubset (.tuple es o) (.array V q) = true := by
  rw [sub_tuple_array, flag_le.2 hq, List.all_eq_true.2 h]
  rfl

/-- Induction on the plain right side `o` (no `OneOf` there). Invert `e ⊑ o`, then `s ⊑ e`, by the `_inv`
lemmas: the pairs of kinds that survive close by the induction hypothesis. The one non-structural step is a
key of `o` that `e` has and `s` lacks: its value in `e` is nullable, so its value in `o` must be optional
(`isOptional_of_sub`), which needs that value not to be a `OneOf`. -/
theorem sub_trans_plain {s e o : Shape} (hp : o.plain = true) (hw : o.wf = true)
    (h1 : isSubset s e = true) (h2 : isSubset e o = true) : isSubset s o = true := by
  induction o using Shape.indAtom generalizing s e with
  | oneOf => cases hp
  | atom o ho =>
    rw [sub_atom ho, Bool.or_eq_true, Bool.and_eq_true, Bool.and_eq_true, beq_iff_eq, flag_le] at h2 ⊢
    rcases h2 with ⟨hen, hoo⟩ | ⟨hte, hf2⟩
    · cases isNull_iff.1 hen
      cases sub_null_inv h1
      exact .inl ⟨rfl, hoo⟩
    · have he : e.isAtom = true := by rw [isAtom_eq_tag, hte, ← isAtom_eq_tag, ho]
      rw [sub_atom he, Bool.or_eq_true, Bool.and_eq_true, Bool.and_eq_true, beq_iff_eq, flag_le] at h1
      exact h1.imp (.imp_right hf2) fun ⟨hts, hf1⟩ => ⟨hts.trans hte, hf2 ∘ hf1⟩
  | array t p ih =>
    have iht := fun s e => @ih s e hp hw
    rcases sub_array_inv h2 with ⟨te, pe, rfl, hte, hpe⟩ | ⟨ees, pe, rfl, hees, hpe⟩ | ⟨rfl, hpe⟩
    · rcases sub_array_inv h1 with ⟨ts, ps, rfl, hts, hps⟩ | ⟨ess, ps, rfl, hess, hps⟩ | ⟨rfl, hps⟩
      · rw [sub_array_array, iht _ _ hts hte, flag_le.2 (hpe ∘ hps)]
        rfl
      · rw [sub_tuple_array, flag_le.2 (hpe ∘ hps), Bool.true_and, List.all_eq_true]
        exact fun x hx => iht _ _ (hess x hx) hte
      · rw [sub_array]
        exact hpe hps
    · exact sub_tuple_to_array h1 hpe fun x e he hxe => iht x e hxe (hees e he)
    · rw [sub_null_inv h1]
      exact h2
  | tuple os p ih =>
    simp only [Shape.plain, plainList_iff] at hp
    rw [wf_tuple_iff] at hw
    rcases sub_tuple_inv h2 with ⟨ees, pe, rfl, hze, hpe⟩ | ⟨rfl, hpe⟩
    · rcases sub_tuple_inv h1 with ⟨ess, ps, rfl, hzs, hps⟩ | ⟨rfl, hps⟩
      · exact sub_tuple_tuple_iff.2 ⟨hpe ∘ hps, hzs.comp hze fun s _ e _ o ho => ih o ho (hp o ho) (hw o ho)⟩
      · rw [sub_tuple]
        exact hpe hps
    · rw [sub_null_inv h1]
      exact h2
  | object c p ih =>
    simp only [Shape.plain, plainMembers_iff] at hp
    rw [wf_object_iff] at hw
    rcases sub_object_inv h2 with ⟨ce, pe, rfl, hce, hpe⟩ | ⟨rfl, hpe⟩
    · rcases sub_object_inv h1 with ⟨cs, ps, rfl, hcs, hps⟩ | ⟨rfl, hps⟩
      · rw [sub_object_object, flag_le.2 (hpe ∘ hps), Bool.true_and]
        rw [objSub_iff] at hce hcs ⊢
        refine ⟨fun k vc hkc => ?_, fun k vs hks => ?_⟩
        · refine (hce.1 k vc hkc).elim (fun hk => ?_) .inr
          obtain ⟨ve, hve⟩ := mapContainsKey_iff.1 hk
          refine (hcs.1 k ve hve).imp_right fun hn => ?_
          obtain ⟨ov, hov, hsub⟩ := hce.2 k ve hve
          rw [mapGet_eq_some_of_mem hw.1 hkc] at hov
          cases hov
          exact nullableSyn_of_isOptional (isOptional_of_sub (plain_not_oneOf (hp _ hkc)) hn hsub)
        · obtain ⟨ve, hve, hse⟩ := hcs.2 k vs hks
          obtain ⟨vc, hvc, hec⟩ := hce.2 k ve (mem_of_mapGet hve)
          exact ⟨vc, hvc, ih _ (mem_of_mapGet hvc) (hp _ (mem_of_mapGet hvc)) (hw.2 _ (mem_of_mapGet hvc)) hse hec⟩
      · rw [sub_object]
        exact hpe hps
    · rw [sub_null_inv h1]
      exact h2

end ShapeVerif
