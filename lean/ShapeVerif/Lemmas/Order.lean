/-
`Shape.cmp`, the derived `Ord` of `Value`, is a strict total order that decides structural equality.
Shapes of different kinds compare by their tags (`cmp_of_tag_ne`); two shapes of the same kind
compare lexicographically, so each law is proved for lists and member lists from the law on their
elements and passes through a lexicographic step (`Ordering.then_eq_eq`, `Ordering.swap_then`,
`then_lt_trans`).
-/
import ShapeVerif.Lemmas.Induction
namespace ShapeVerif
open Shape Std

theorem cmp_of_tag_ne {a b : Shape} (h : a.tag ≠ b.tag) : cmp a b = compare a.tag b.tag := by
  -- 56 pairs of different constructors hold by `rfl`, the 8 pairs of equal ones contradict `h`
  cases a <;> cases b <;> first | rfl | exact absurd rfl h

theorem cmpList_eq_iff_of : ∀ {l : List Shape}, (∀ a ∈ l, ∀ b, cmp a b = .eq ↔ a = b) →
    ∀ l', cmpList l l' = .eq ↔ l = l'
  | [], _, [] => by simp [cmpList]
  | [], _, _ :: _ => by simp [cmpList]
  | _ :: _, _, [] => by simp [cmpList]
  | a :: l, ih, b :: l' => by
    rw [cmpList, Ordering.then_eq_eq, ih a List.mem_cons_self,
      cmpList_eq_iff_of (fun x hx => ih x (List.mem_cons_of_mem _ hx)), List.cons.injEq]

theorem cmpMembers_eq_iff_of : ∀ {l : Members}, (∀ kv ∈ l, ∀ b, cmp kv.2 b = .eq ↔ kv.2 = b) →
    ∀ l', cmpMembers l l' = .eq ↔ l = l'
  | [], _, [] => by simp [cmpMembers]
  | [], _, _ :: _ => by simp [cmpMembers]
  | _ :: _, _, [] => by simp [cmpMembers]
  | (k, a) :: l, ih, (k', b) :: l' => by
    rw [cmpMembers, Ordering.then_eq_eq, Ordering.then_eq_eq, ih (k, a) List.mem_cons_self, compare_eq_iff_eq,
      cmpMembers_eq_iff_of (fun x hx => ih x (List.mem_cons_of_mem _ hx)), List.cons.injEq, Prod.mk.injEq]

theorem cmp_eq_iff_of_same_kind {a b : Shape} (same : a.tag = b.tag → (cmp a b = .eq ↔ a = b)) :
    cmp a b = .eq ↔ a = b := by
  by_cases ht : a.tag = b.tag
  · exact same ht
  · rw [cmp_of_tag_ne ht, compare_eq_iff_eq]
    exact ⟨fun h => absurd h ht, fun h => absurd (congrArg tag h) ht⟩

theorem cmp_eq_iff (a b : Shape) : cmp a b = .eq ↔ a = b := by
  -- `cases e` on an equation between tags closes the goal for two different kinds and leaves the
  -- one for the same kind (`decide` cannot be used: the goal has free variables)
  induction a generalizing b with
  | null | bool o | number o | string o =>
    refine cmp_eq_iff_of_same_kind fun e => ?_
    cases b <;> cases e
    simp [cmp]
  | array t o ih =>
    refine cmp_eq_iff_of_same_kind fun e => ?_
    cases b <;> cases e
    rw [cmp, Ordering.then_eq_eq, ih, compare_eq_iff_eq, array.injEq]
  | object c o ih =>
    refine cmp_eq_iff_of_same_kind fun e => ?_
    cases b <;> cases e
    rw [cmp, Ordering.then_eq_eq, cmpMembers_eq_iff_of ih, compare_eq_iff_eq, object.injEq]
  | oneOf c o ih | tuple c o ih =>
    refine cmp_eq_iff_of_same_kind fun e => ?_
    cases b <;> cases e
    simp only [cmp, Ordering.then_eq_eq, cmpList_eq_iff_of ih, compare_eq_iff_eq, oneOf.injEq, tuple.injEq]

theorem cmpList_eq_iff (a b : List Shape) : cmpList a b = .eq ↔ a = b :=
  cmpList_eq_iff_of (fun a _ => cmp_eq_iff a) b

theorem cmpMembers_eq_iff (a b : Members) : cmpMembers a b = .eq ↔ a = b :=
  cmpMembers_eq_iff_of (fun kv _ => cmp_eq_iff kv.2) b

theorem cmp_refl (a : Shape) : cmp a a = .eq := (cmp_eq_iff a a).2 rfl
theorem cmpList_refl (a : List Shape) : cmpList a a = .eq := (cmpList_eq_iff a a).2 rfl
theorem cmpMembers_refl (a : Members) : cmpMembers a a = .eq := (cmpMembers_eq_iff a a).2 rfl

instance : DecidableEq Shape := fun a b =>
  if h : cmp a b = .eq then isTrue ((cmp_eq_iff a b).1 h)
  else isFalse (fun e => h ((cmp_eq_iff a b).2 e))

theorem cmp_beq_eq_iff (a b : Shape) : (cmp a b == .eq) = true ↔ a = b := by
  rw [beq_iff_eq]
  exact cmp_eq_iff a b

theorem compare_nat_swap (a b : Nat) : compare a b = (compare b a).swap := OrientedCmp.eq_swap

theorem cmpList_swap : ∀ {l : List Shape}, (∀ a ∈ l, ∀ b, cmp a b = (cmp b a).swap) →
    ∀ l', cmpList l l' = (cmpList l' l).swap
  | [], _, [] => rfl
  | [], _, _ :: _ => rfl
  | _ :: _, _, [] => rfl
  | a :: l, ih, b :: l' => by
    rw [cmpList, cmpList, Ordering.swap_then, ← ih a List.mem_cons_self b,
      ← cmpList_swap (fun x hx => ih x (List.mem_cons_of_mem _ hx)) l']

theorem cmpMembers_swap : ∀ {c : Members}, (∀ kv ∈ c, ∀ b, cmp kv.2 b = (cmp b kv.2).swap) →
    ∀ c', cmpMembers c c' = (cmpMembers c' c).swap
  | [], _, [] => rfl
  | [], _, _ :: _ => rfl
  | _ :: _, _, [] => rfl
  | (k, a) :: c, ih, (k', b) :: c' => by
    rw [cmpMembers, cmpMembers, Ordering.swap_then, Ordering.swap_then, ← ih (k, a) List.mem_cons_self b,
      ← cmpMembers_swap (fun x hx => ih x (List.mem_cons_of_mem _ hx)) c',
      ← OrientedCmp.eq_swap (cmp := (compare : String → String → Ordering))]

theorem cmp_swap_of_same_kind {a b : Shape} (same : a.tag = b.tag → cmp a b = (cmp b a).swap) :
    cmp a b = (cmp b a).swap := by
  by_cases ht : a.tag = b.tag
  · exact same ht
  · rw [cmp_of_tag_ne ht, cmp_of_tag_ne (Ne.symm ht)]
    exact compare_nat_swap _ _

theorem cmp_swap (a b : Shape) : cmp a b = (cmp b a).swap := by
  have hb (o o' : Bool) : compare o o' = (compare o' o).swap := OrientedCmp.eq_swap
  induction a generalizing b with
  | null =>
    refine cmp_swap_of_same_kind fun e => ?_
    cases b <;> cases e
    rfl
  | bool o | number o | string o =>
    refine cmp_swap_of_same_kind fun e => ?_
    cases b <;> cases e
    exact hb _ _
  | array t o ih =>
    refine cmp_swap_of_same_kind fun e => ?_
    cases b <;> cases e
    rw [cmp, cmp, Ordering.swap_then, ← ih, ← hb]
  | object c o ih =>
    refine cmp_swap_of_same_kind fun e => ?_
    cases b <;> cases e
    rw [cmp, cmp, Ordering.swap_then, ← cmpMembers_swap ih, ← hb]
  | oneOf vs o ih | tuple vs o ih =>
    refine cmp_swap_of_same_kind fun e => ?_
    cases b <;> cases e
    rw [cmp, cmp, Ordering.swap_then, ← cmpList_swap ih, ← hb]

theorem cmp_gt_iff_lt (a b : Shape) : cmp a b = .gt ↔ cmp b a = .lt := by
  rw [cmp_swap a b]
  cases cmp b a <;> simp [Ordering.swap]

theorem cmp_lt_iff_gt (a b : Shape) : cmp a b = .lt ↔ cmp b a = .gt := (cmp_gt_iff_lt b a).symm

theorem then_lt_trans {α : Type} {c : α → α → Ordering} (heq : ∀ x y, c x y = .eq → x = y)
    {x y z : α} {B12 B23 B13 : Ordering} (hc : c x y = .lt → c y z = .lt → c x z = .lt)
    (hB : B12 = .lt → B23 = .lt → B13 = .lt)
    (h1 : (c x y).then B12 = .lt) (h2 : (c y z).then B23 = .lt) : (c x z).then B13 = .lt := by
  rw [Ordering.then_eq_lt] at *
  rcases h1 with h1 | ⟨e1, h1⟩ <;> rcases h2 with h2 | ⟨e2, h2⟩
  · exact Or.inl (hc h1 h2)
  · cases heq _ _ e2
    exact Or.inl h1
  · cases heq _ _ e1
    exact Or.inl h2
  · cases heq _ _ e1
    exact Or.inr ⟨e2, hB h1 h2⟩

theorem compare_bool_lt_trans {a b c : Bool} (h1 : compare a b = .lt) (h2 : compare b c = .lt) :
    compare a c = .lt := TransCmp.lt_trans h1 h2

theorem cmpList_lt_trans : ∀ {l : List Shape},
    (∀ a ∈ l, ∀ b c, cmp a b = .lt → cmp b c = .lt → cmp a c = .lt) →
    ∀ l' l'', cmpList l l' = .lt → cmpList l' l'' = .lt → cmpList l l'' = .lt
  | [], _, _ :: _, _ :: _ => fun _ _ => rfl
  | [], _, _ :: _, [] => fun _ h => nomatch h
  | [], _, [], _ => fun h _ => nomatch h
  | _ :: _, _, [], _ => fun h _ => nomatch h
  | _ :: _, _, _ :: _, [] => fun _ h => nomatch h
  | a :: l, ih, b :: l', c :: l'' => fun h1 h2 => by
    rw [cmpList] at h1 h2 ⊢
    exact then_lt_trans (fun x y => (cmp_eq_iff x y).1) (ih a List.mem_cons_self b c)
      (cmpList_lt_trans (fun x hx => ih x (List.mem_cons_of_mem _ hx)) l' l'') h1 h2

theorem cmpMembers_lt_trans : ∀ {m : Members},
    (∀ kv ∈ m, ∀ b c, cmp kv.2 b = .lt → cmp b c = .lt → cmp kv.2 c = .lt) →
    ∀ m' m'', cmpMembers m m' = .lt → cmpMembers m' m'' = .lt → cmpMembers m m'' = .lt
  | [], _, _ :: _, _ :: _ => fun _ _ => rfl
  | [], _, _ :: _, [] => fun _ h => nomatch h
  | [], _, [], _ => fun h _ => nomatch h
  | _ :: _, _, [], _ => fun h _ => nomatch h
  | _ :: _, _, _ :: _, [] => fun _ h => nomatch h
  | (k, a) :: m, ih, (k', b) :: m', (k'', c) :: m'' => fun h1 h2 => by
    rw [cmpMembers, Ordering.then_assoc] at h1 h2 ⊢
    exact then_lt_trans (fun _ _ => compare_eq_iff_eq.1) TransCmp.lt_trans
      (then_lt_trans (fun x y => (cmp_eq_iff x y).1) (ih (k, a) List.mem_cons_self b c)
        (cmpMembers_lt_trans (fun x hx => ih x (List.mem_cons_of_mem _ hx)) m' m'')) h1 h2

theorem cmp_lt_trans_of_same_kind {a b c : Shape} (h1 : cmp a b = .lt) (h2 : cmp b c = .lt)
    (same : a.tag = b.tag → b.tag = c.tag → cmp a c = .lt) : cmp a c = .lt := by
  by_cases e1 : a.tag = b.tag
  · by_cases e2 : b.tag = c.tag
    · exact same e1 e2
    · rw [cmp_of_tag_ne e2] at h2
      rw [cmp_of_tag_ne (e1 ▸ e2), e1]
      exact h2
  · rw [cmp_of_tag_ne e1] at h1
    by_cases e2 : b.tag = c.tag
    · rw [cmp_of_tag_ne (e2 ▸ e1), ← e2]
      exact h1
    · rw [cmp_of_tag_ne e2] at h2
      have := Nat.lt_trans (Nat.compare_eq_lt.1 h1) (Nat.compare_eq_lt.1 h2)
      rw [cmp_of_tag_ne (Nat.ne_of_lt this)]
      exact Nat.compare_eq_lt.2 this

theorem cmp_lt_trans {a b c : Shape} (h1 : cmp a b = .lt) (h2 : cmp b c = .lt) : cmp a c = .lt := by
  induction a generalizing b c with
  | null =>
    refine cmp_lt_trans_of_same_kind h1 h2 fun e1 _ => ?_
    cases b <;> cases e1
    cases h1
  | bool o | number o | string o =>
    refine cmp_lt_trans_of_same_kind h1 h2 fun e1 e2 => ?_
    cases b <;> cases e1
    cases c <;> cases e2
    exact compare_bool_lt_trans h1 h2
  | array t o ih =>
    refine cmp_lt_trans_of_same_kind h1 h2 fun e1 e2 => ?_
    cases b <;> cases e1
    cases c <;> cases e2
    exact then_lt_trans (fun x y => (cmp_eq_iff x y).1) ih compare_bool_lt_trans h1 h2
  | object m o ih =>
    refine cmp_lt_trans_of_same_kind h1 h2 fun e1 e2 => ?_
    cases b <;> cases e1
    cases c <;> cases e2
    exact then_lt_trans (fun x y => (cmpMembers_eq_iff x y).1)
      (cmpMembers_lt_trans (fun kv hk b c => ih kv hk) _ _) compare_bool_lt_trans h1 h2
  | oneOf vs o ih | tuple vs o ih =>
    refine cmp_lt_trans_of_same_kind h1 h2 fun e1 e2 => ?_
    cases b <;> cases e1
    cases c <;> cases e2
    exact then_lt_trans (fun x y => (cmpList_eq_iff x y).1)
      (cmpList_lt_trans (fun a ha b c => ih a ha) _ _) compare_bool_lt_trans h1 h2

end ShapeVerif
