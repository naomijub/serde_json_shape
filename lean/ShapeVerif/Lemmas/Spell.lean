/-
`Spell pos nts cs`: the text `cs`, which starts at byte `pos`, spells the grammar tokens `nts` as valid
RFC 8259 lexemes with whitespace anywhere between them. It is the normal form of a cut of a text into
lexemes (`spell_of_tiles`, back by `tiles_of_spell`), since whitespace may be cut in more than one way;
the lexer's completeness and both directions of `Rfc.parse` against the specification are stated over it.
-/
import ShapeVerif.Lemmas.Slice
import ShapeVerif.Lemmas.LexNumber
import ShapeVerif.Lemmas.LexString
import ShapeVerif.Lemmas.ParseClean
namespace ShapeVerif

def isGrammarKind (k : Tok) : Bool :=
  k == .lbrace || k == .rbrace || k == .lbrak || k == .rbrak || k == .comma || k == .colon ||
  k == .string || k == .number || k == .true_ || k == .false_ || k == .null_

def needsFollow (k : Tok) : Bool := k == .number || k == .true_ || k == .false_ || k == .null_

/-- the one spelling of a structural character or literal name -/
def fixedText : Tok → Option (List Char)
  | .lbrace => some ['{'] | .rbrace => some ['}'] | .lbrak => some ['['] | .rbrak => some [']']
  | .comma => some [','] | .colon => some [':']
  | .true_ => some ['t', 'r', 'u', 'e'] | .false_ => some ['f', 'a', 'l', 's', 'e'] | .null_ => some ['n', 'u', 'l', 'l']
  | _ => none

theorem lexemeOk_fixed {k : Tok} {s txt : List Char} (h : fixedText k = some s) : lexemeOk k txt = true ↔ txt = s := by
  cases k <;> cases h <;> exact beq_iff_eq

def allWs (w : List Char) : Prop := ∀ c ∈ w, Rfc.isWs c = true

theorem allWs_nil : allWs [] := fun _ h => nomatch h

theorem allWs_cons {c : Char} {w : List Char} : allWs (c :: w) ↔ Rfc.isWs c = true ∧ allWs w := List.forall_mem_cons

theorem allWs_append {a b : List Char} : allWs (a ++ b) ↔ allWs a ∧ allWs b := List.forall_mem_append

inductive Spell : Nat → List Token → List Char → Prop
  | done {pos : Nat} {w : List Char} : allWs w → Spell pos [] w
  | tok {pos : Nat} {w txt rest : List Char} {t : Token} {nts : List Token} : allWs w →
      t.start = pos + utf8Len w → t.stop = t.start + utf8Len txt → isGrammarKind t.kind = true →
      lexemeOk t.kind txt = true → Spell t.stop nts rest → Spell pos (t :: nts) (w ++ txt ++ rest)

theorem Spell.prepend {pos : Nat} {w0 : List Char} (h0 : allWs w0) :
    ∀ {nts : List Token} {cs : List Char}, Spell (pos + utf8Len w0) nts cs → Spell pos nts (w0 ++ cs) := by
  intro nts cs h
  cases h with
  | done hw => exact .done (allWs_append.2 ⟨h0, hw⟩)
  | @tok _ w txt rest t nts hw hs he hk hv hrest =>
    have : w0 ++ (w ++ txt ++ rest) = (w0 ++ w) ++ txt ++ rest := by simp
    rw [this]
    exact .tok (allWs_append.2 ⟨h0, hw⟩) (by rw [hs, utf8Len_append]; omega) he hk hv hrest

theorem grammarKind_iff (k : Tok) : isGrammarKind k = true ↔ (isSkipTok k = false ∧ k ≠ .eof) := by
  cases k <;> decide

theorem allWs_of_skip {k : Tok} {txt : List Char} (hk : isSkipTok k = true) (hv : lexemeOk k txt = true) : allWs txt := by
  simp only [isSkipTok, Bool.or_eq_true, beq_iff_eq] at hk
  rcases hk with (rfl | rfl) | rfl
  · cases hv
  all_goals exact fun c hc => List.all_eq_true.1 (Bool.and_eq_true_iff.1 hv).2 c hc

theorem spell_of_tiles : ∀ (toks : List Token) (pos : Nat) (cs : List Char), TilesFrom pos toks cs →
    Spell pos (sig toks) cs
  | [], pos, cs, h => by
    have : cs = [] := h
    subst this
    exact .done allWs_nil
  | t :: ts, pos, cs, h => by
    obtain ⟨txt, rest, rfl, hs, he, hv, hrest⟩ := h
    have ih := spell_of_tiles ts t.stop rest hrest
    by_cases hsk : isSkipTok t.kind = true
    · rw [sig_cons_skip hsk]
      exact Spell.prepend (allWs_of_skip hsk hv) (by rw [← he]; exact ih)
    · have hsk' : isSkipTok t.kind = false := by simpa using hsk
      have hne : t.kind ≠ .eof := fun e => by rw [e] at hv; cases hv
      rw [sig_cons_keep hsk']
      have := Spell.tok (pos := pos) (w := []) (txt := txt) (rest := rest) (t := t) (nts := sig ts)
        allWs_nil (by simpa using hs) (by rw [he, hs]) ((grammarKind_iff _).2 ⟨hsk', hne⟩) hv ih
      simpa using this

def isCloser (k : Tok) : Bool := k == .comma || k == .rbrak || k == .rbrace

def CloserLed (r : List Token) : Prop := ∀ b tl, r = b :: tl → isCloser b.kind = true

theorem lexeme_head {k : Tok} {txt : List Char} (hk : isGrammarKind k = true) (hv : lexemeOk k txt = true) :
    ∃ c tl, txt = c :: tl ∧ Rfc.isWs c = false := by
  cases k
  case eof | error | ws | nl => cases hk
  case number =>
    obtain ⟨c, tl, rfl, hc⟩ := number_head (by simpa [lexemeOk] using hv)
    exact ⟨c, tl, rfl, by
      rcases hc with rfl | hd
      · rfl
      · cases hw : Rfc.isWs c with
        | false => rfl
        | true =>
          simp only [Rfc.isWs, Bool.or_eq_true, beq_iff_eq] at hw
          rcases hw with ((rfl | rfl) | rfl) | rfl <;> cases hd⟩
  case string =>
    obtain ⟨s, rfl, _⟩ := lexemeOk_string.1 hv
    exact ⟨_, _, rfl, rfl⟩
  all_goals (cases (lexemeOk_fixed rfl).1 hv; exact ⟨_, _, rfl, rfl⟩)

/-- an all-whitespace prefix of a text lies inside the leading whitespace of any spelling of it -/
theorem ws_prefix : ∀ (a b w x : List Char), a ++ b = w ++ x → allWs a → allWs w →
    (∀ c tl, x = c :: tl → Rfc.isWs c = false) → ∃ w', w = a ++ w' ∧ b = w' ++ x
  | [], b, w, x, h, _, _, _ => ⟨w, rfl, by simpa using h⟩
  | c :: a, b, [], x, h, ha, _, hx => by
    exfalso
    simp only [List.cons_append, List.nil_append] at h
    have := hx c (a ++ b) h.symm
    rw [(allWs_cons.1 ha).1] at this; cases this
  | c :: a, b, d :: w, x, h, ha, hw, hx => by
    simp only [List.cons_append, List.cons.injEq] at h
    obtain ⟨rfl, h⟩ := h
    obtain ⟨w', e1, e2⟩ := ws_prefix a b w x h (allWs_cons.1 ha).2 (allWs_cons.1 hw).2 hx
    exact ⟨w', by rw [e1]; rfl, e2⟩

theorem spell_strip {pos : Nat} {nts : List Token} : ∀ {a b : List Char}, allWs a →
    Spell pos nts (a ++ b) → Spell (pos + utf8Len a) nts b := by
  intro a b ha h
  generalize hcs : a ++ b = cs at h
  cases h with
  | done hw =>
    exact .done (allWs_append.1 (hcs ▸ hw)).2
  | @tok _ w txt rest t nts hw hs he hk hv hrest =>
    obtain ⟨c, tl, htxt, hcw⟩ := lexeme_head hk hv
    have := ws_prefix a b w (txt ++ rest) (by rw [hcs]; simp) ha hw
      (by intro c' tl' e; rw [htxt] at e; simp only [List.cons_append, List.cons.injEq] at e; rw [← e.1]; exact hcw)
    obtain ⟨w', e1, e2⟩ := this
    rw [e2, ← List.append_assoc]
    exact .tok (allWs_append.1 (e1 ▸ hw)).2 (by rw [hs, e1, utf8Len_append]; omega) he hk hv hrest

theorem follow_closer {pos : Nat} {r : List Token} {rest : List Char} (hs : Spell pos r rest) (hc : CloserLed r) :
    ValueFollow rest := by
  intro c tl e
  cases hs with
  | done hw => exact .inl (allWs_cons.1 (e ▸ hw)).1
  | @tok _ w txt rest' t2 nts' hw hs2 he hk hv hrest =>
    cases w with
    | cons a w' =>
      simp only [List.cons_append, List.cons.injEq] at e
      exact .inl (e.1 ▸ (allWs_cons.1 hw).1)
    | nil =>
      have hcl := hc t2 nts' rfl
      simp only [isCloser, Bool.or_eq_true, beq_iff_eq] at hcl
      rcases hcl with (hk' | hk') | hk' <;>
        (rw [(lexemeOk_fixed (by rw [hk']; rfl)).1 hv] at e
         simp only [List.cons_append, List.nil_append, List.cons.injEq] at e)
      · exact .inr (.inl e.1.symm)
      · exact .inr (.inr (.inl e.1.symm))
      · exact .inr (.inr (.inr e.1.symm))

theorem spell_nil {pos : Nat} {nts : List Token} (h : Spell pos nts []) : nts = [] := by
  generalize hcs : ([] : List Char) = cs at h
  cases h with
  | done _ => rfl
  | @tok _ w txt rest t nts' hw hs he hk hv hrest =>
    exfalso
    obtain ⟨c, tl, htxt, _⟩ := lexeme_head hk hv
    rw [htxt] at hcs; simp at hcs

theorem tiles_append : ∀ (a b : List Token) (t1 t2 : List Char) (pos : Nat),
    TilesFrom pos a t1 → TilesFrom (pos + utf8Len t1) b t2 → TilesFrom pos (a ++ b) (t1 ++ t2)
  | [], b, t1, t2, pos, h1, h2 => by
    simp only [TilesFrom] at h1
    subst h1
    simpa using h2
  | t :: a, b, t1, t2, pos, h1, h2 => by
    obtain ⟨txt, rest, e, hs, he, hl, hr⟩ := h1
    subst e
    refine ⟨txt, rest ++ t2, by simp, hs, he, hl, ?_⟩
    have : t.stop + utf8Len rest = pos + utf8Len (txt ++ rest) := by
      rw [he]
      simp
      omega
    exact tiles_append a b rest t2 t.stop hr (this ▸ h2)

def wsToks (pos : Nat) (w : List Char) : List Token := if w.isEmpty then [] else [⟨.ws, pos, pos + utf8Len w⟩]

theorem wsToks_tiles (pos : Nat) (w : List Char) (h : allWs w) : TilesFrom pos (wsToks pos w) w := by
  unfold wsToks
  cases w with
  | nil => simp [TilesFrom]
  | cons c cs =>
    exact ⟨c :: cs, [], by simp, rfl, rfl, by simpa [lexemeOk, allWs] using h, rfl⟩

theorem sig_wsToks (pos : Nat) (w : List Char) : sig (wsToks pos w) = [] := by
  unfold wsToks sig
  split <;> simp [isSkipTok]

theorem tiles_of_spell {pos : Nat} {nts : List Token} {cs : List Char} (h : Spell pos nts cs) :
    ∃ toks, TilesFrom pos toks cs ∧ sig toks = nts := by
  induction h with
  | @done pos w hw => exact ⟨wsToks pos w, wsToks_tiles pos w hw, sig_wsToks pos w⟩
  | @tok pos w txt rest t nts hw hs he hk hv _ ih =>
    obtain ⟨toks, ht, hsig⟩ := ih
    refine ⟨wsToks pos w ++ t :: toks, ?_, ?_⟩
    · rw [List.append_assoc]
      exact tiles_append _ _ w _ pos (wsToks_tiles pos w hw) ⟨txt, rest, rfl, hs, by rw [he, hs], hv, ht⟩
    · have : isSkipTok t.kind = false := ((grammarKind_iff _).1 hk).1
      have h1 := sig_wsToks pos w
      simp only [sig] at h1 hsig ⊢
      simp [List.filter_append, h1, hsig, this]

end ShapeVerif
