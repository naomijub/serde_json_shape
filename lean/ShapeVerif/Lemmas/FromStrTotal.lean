/-
`from_str` on every string: no panic, and every `InvalidJson` error carries the text at its range;
`from_sources` does not panic either (`fromSources_ne_panic`).
-/
import ShapeVerif.Lemmas.CstTotal
import ShapeVerif.Lemmas.EntryPoints
namespace ShapeVerif
open Shape

/-- what keeps the parser's diagnostics sliceable on arbitrary input: the spans `error` reports are
token spans (`TokOk`) or `maxOffset`, the length of the text. `Stable`. -/
structure PInv (src : List Char) (s : PState) : Prop where
  toks : ∀ t ∈ s.toks, TokOk src t
  diags : ∀ d ∈ s.diags, DiagOk src d
  maxOff : s.maxOffset = utf8Len src

theorem span_ok {src : List Char} {s : PState} (h : PInv src s) :
    Boundary src s.span.1 ∧ Boundary src s.span.2 ∧ s.span.1 ≤ s.span.2 := by
  unfold PState.span
  cases ht : s.toks with
  | nil =>
    simp only [h.maxOff]
    exact ⟨boundary_len src, boundary_len src, Nat.le_refl _⟩
  | cons t ts =>
    have := h.toks t (by simp [ht])
    exact ⟨this.bs, this.be, Nat.le_of_lt this.lt⟩

theorem pinv_stable (src : List Char) : Stable (PInv src) where
  error := by
    intro s h
    unfold PState.error
    split
    · exact h
    · refine ⟨h.toks, ?_, h.maxOff⟩
      intro d hd
      rcases List.mem_cons.1 hd with rfl | hd
      · exact span_ok h
      · exact h.diags d hd
  advance := by
    intro s e h
    unfold PState.advance
    cases ht : s.toks with
    | nil => exact h
    | cons t ts =>
      refine ⟨?_, h.diags, h.maxOff⟩
      intro t' ht'
      exact h.toks t' (by rw [ht]; exact List.mem_cons_of_mem _ (takeSkips_subset ts t' ht'))
  cooldown := by intro s h; exact ⟨h.toks, h.diags, h.maxOff⟩

theorem parse_diags_ok (src : List Char) : ∀ d ∈ (parse src).diags, DiagOk src d := by
  have lx := tokenize_ok src
  have h0 : PInv src (initState (tokenize src) (utf8Len src)) := by
    refine ⟨?_, ?_, rfl⟩
    · intro t ht
      exact lx.toks t (takeSkips_subset _ t ht)
    · intro d hd
      exact lx.diags d (by simpa [initState] using hd)
  have h1 := ((pinv_stable src).rules (2 * (tokenize src).tokens.length + 4)).1 _ h0
  have h2 := (pinv_stable src).parseTail _ h1
  intro d hd
  exact h2.diags d (by simpa [parse] using hd)

theorem parse_root_ok (src : List Char) : ListOk src (leaves (parse src).root) := by
  obtain ⟨rest, h⟩ := parse_leaves src
  have : ListOk src ((leaves (parse src).root) ++ rest) := h ▸ (tokenize_ok src).listOk
  exact this.append_left

theorem firstBad_good {src : List Char} : ∀ (cs : List Node) (prevEnd : Nat) (r : Outcome Shape),
    Boundary src prevEnd → ListOk src (leavesList cs) → parseCst.firstBad src prevEnd cs = some r → Good src r
  | [], _, _, _, _, h => by simp [parseCst.firstBad] at h
  | n :: ns, prevEnd, r, hb, hl, h => by
    simp only [leavesList] at hl
    simp only [parseCst.firstBad] at h
    have key : ∀ (bad : Bool), (if bad = true then some (invalidJsonAt src (nodeSpan prevEnd n))
        else parseCst.firstBad src (nodeEnd prevEnd n) ns) = some r → Good src r := by
      intro bad hh
      cases bad with
      | true =>
        simp only [if_true] at hh
        cases hh
        exact invalidJsonAt_good (nodeSpan_sliceable hb hl.append_left)
      | false =>
        simp only [Bool.false_eq_true, if_false] at hh
        exact firstBad_good ns _ r (nodeEnd_boundary hb hl.append_left) hl.append_right hh
    exact key _ h

theorem parseCst_good {src : List Char} {root : Node} (hl : ListOk src (leaves root)) :
    Good src (parseCst src root) := by
  have hb := boundary_zero src
  have hother : Good src (invalidJsonAt src (nodeSpan 0 root)) := invalidJsonAt_good (nodeSpan_sliceable hb hl)
  unfold parseCst
  split
  next cs =>
    have hcs : ListOk src (leavesList cs) := by simpa [leaves] using hl
    refine good_bind_unit (hasErrors_good hb hcs) _ ?_
    simp only
    split
    · cases hf : parseCst.firstBad src 0 cs with
      | none => exact good_err_other src _ (by intro v s t h; cases h)
      | some r => exact firstBad_good cs 0 r hb hcs hf
    · cases hf : findNode (fun n => !isWsNode n) 0 cs with
      | none => exact hother
      | some np =>
        obtain ⟨n, pe⟩ := np
        obtain ⟨hmem, _, hpe⟩ := findNode_spec _ cs 0 n pe hb hcs hf
        exact parseRule_good (listOk_of_mem hcs hmem) hpe
  next => exact hother

theorem rejectDiagnostics_good {src : List Char} {diags : List Diag} (h : ∀ d ∈ diags, DiagOk src d) :
    Good src (rejectDiagnostics src diags) := by
  unfold rejectDiagnostics
  cases diags with
  | nil => exact good_ok src ()
  | cons d ds =>
    obtain ⟨b1, b2, hle⟩ := h d (by simp)
    obtain ⟨m, hm⟩ := sliceBytes_of_boundaries b1 b2 hle
    simp only [hm]
    exact ⟨(by intro h; cases h), (by intro v s e h; cases h; simpa using hm)⟩

theorem fromStr_good (src : List Char) : Good src (fromStr src) := by
  unfold fromStr
  have h1 := parseCst_good (parse_root_ok src)
  have h2 := rejectDiagnostics_good (parse_diags_ok src)
  simp only
  cases hp : parseCst src (parse src).root with
  | panic => exact absurd hp h1.1
  | err e =>
    rw [hp] at h1
    exact h1
  | ok s =>
    simp only
    cases hr : rejectDiagnostics src (parse src).diags with
    | panic => exact absurd hr h2.1
    | err e =>
      rw [hr] at h2
      exact good_err_cast h2
    | ok u => exact good_ok src s

theorem fromSources_ne_panic (srcs : List (List Char)) : fromSources srcs ≠ .panic := by
  rcases fromSources_cases srcs with ⟨vs, _, h⟩ | ⟨u, _, _, h⟩ <;> rw [h]
  · split <;> simp
  · exact (fromStr_good u).1

end ShapeVerif
